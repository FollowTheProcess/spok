/-! # Engine **graph** — executable model of how spok selects and orders the tasks of one run (property C03)

Code under test: `file.New` (duplicate task check), `SpokFile.buildGraph`, `SpokFile.Run` / `run` in `/repo/file/file.go`
and the third-party `github.com/FollowTheProcess/collections/dag` (`AddVertex`, `AddEdge`, `Sort` = Kahn's algorithm over
Go maps / sets, FIFO queue).

Core Lean only.  Everything is generic in the type `α` of task names (`String` in the oracle executable).

* a spokfile is a `Table α`: the task definitions `(name, task dependencies in source order)` in spokfile order;
* `load`     = the loop of `file.New` over the task nodes (`HasTask` ⇒ "Duplicate task" error);
* `closure`  = `buildGraph`: the recursive closure `visit(name, parent)` written as its own call stack
               (`Frame.visit` = a pending call, `Frame.edge` = the `graph.AddEdge(dep, name)` that follows the call);
* `sort o`   = `dag.Graph.Sort`: the two places where Go ranges over a map (`g.vertices`, `vert.children.Items()`) take
               their iteration order from the oracle `o`; theorems quantify over every oracle;
* `plan o`   = `load`, `closure`, `sort`, then the `len(runOrder) != dag.Order()` test of `Run`;
* `runLoop`  = the `for _, taskToRun := range runOrder` loop of `run` as far as C03 sees it (forced run, one command per
               task): one Runner call and one result per planned task, **no exit from the loop when a command fails**.
-/
namespace Spok.Graph

variable {α : Type} [DecidableEq α]

/-- task definitions in spokfile order: name and declared task dependencies (in source order) -/
abbrev Table (α : Type) := List (α × List α)

def names (ts : Table α) : List α := ts.map Prod.fst

/-- `s.Tasks[name]` (first definition; `load` rejects tables in which that matters) -/
def lookup : Table α → α → Option (List α)
  | [], _ => none
  | (m, ds) :: ts, n => if m = n then some ds else lookup ts n

/-- `TaskDependencies` of a task (`[]` for an undefined name) -/
def deps (ts : Table α) (n : α) : List α := (lookup ts n).getD []

/-- error classes (message wording is never compared) -/
inductive Err
  | duplicate         -- file.New: "Duplicate task: spokfile already contains task named …"
  | noSuchTask        -- buildGraph: "Spokfile has no task …"
  | noSuchDependency  -- buildGraph: "Task … declares a dependency on task …, which does not exist"
  | cycle             -- dag.Sort / Run: "graph contains a cycle and cannot be sorted"
  | other             -- "could not add edge …" (AddEdge on a missing vertex): proved unreachable
  deriving DecidableEq, Repr

inductive Outcome (β : Type)
  | ok (v : β)
  | error (e : Err)
  | spin            -- the `for !queue.Empty()` loop of dag.Sort would still be running after |V| pops: proved unreachable
  deriving DecidableEq, Repr

/-! ## file.New -/

/-- the task part of the loop in `file.New`: `acc` is `file.Tasks` so far -/
def loadFrom (acc : Table α) : Table α → Except Err (Table α)
  | [] => .ok acc
  | (n, ds) :: rest =>
    if (lookup acc n).isSome then .error .duplicate     -- file.HasTask(task.Name)
    else loadFrom (acc ++ [(n, ds)]) rest

def load (ts : Table α) : Except Err (Table α) := loadFrom [] ts

/-! ## buildGraph -/

/-- `dag.Graph`: `verts` = keys of `vertices` (insertion order is *not* observable in Go, only through the oracle),
    `edges` = pairs `(parent, child)` with `child ∈ parent.children`, `parent ∈ child.parents` (sets), `size` = `g.edges`
    (`AddEdge` counts every call, also a repeated edge) -/
structure Graph (α : Type) where
  verts : List α
  edges : List (α × α)
  size  : Nat
  deriving Repr

def Graph.empty : Graph α := ⟨[], [], 0⟩

/-- `graph.AddVertex(name, current)` when `ContainsVertex(name)` was false just before (its error branch is dead code there) -/
def Graph.addVertex (g : Graph α) (n : α) : Graph α := { g with verts := g.verts ++ [n] }

/-- the successful part of `AddEdge(from, to)`: two set inserts and `g.edges++` -/
def Graph.insEdge (g : Graph α) (p c : α) : Graph α :=
  { g with edges := if (p, c) ∈ g.edges then g.edges else g.edges ++ [(p, c)], size := g.size + 1 }

/-- a frame of `visit`'s call stack -/
inductive Frame (α : Type)
  | visit (name : α) (parent : Option α)   -- a call `visit(name, parent)` (`parent = none` is Go's `""`: a requested task)
  | edge (dep name : α)                     -- `graph.AddEdge(dep, name)` after `visit(dep, name)` returned nil
  deriving DecidableEq, Repr

/-- what `visit(name, …)` pushes for `for _, dep := range current.TaskDependencies` -/
def frames (n : α) (ds : List α) : List (Frame α) :=
  ds.flatMap fun d => [Frame.visit d (some n), Frame.edge d n]

/-- number of defined names that are not yet vertices (termination measure of the closure) -/
def fresh (ts : Table α) (g : Graph α) : Nat := ((names ts).filter (fun n => n ∉ g.verts)).length

theorem mem_names_of_lookup {ts : Table α} {n : α} {ds : List α} (h : lookup ts n = some ds) : n ∈ names ts := by
  induction ts with
  | nil => simp [lookup] at h
  | cons t ts ih =>
    obtain ⟨m, ds'⟩ := t
    by_cases hm : m = n
    · simp [names, hm]
    · simp only [lookup, hm, if_false] at h
      simp only [names, List.map_cons, List.mem_cons]
      exact Or.inr (ih h)

theorem fresh_lt {ts : Table α} {g : Graph α} {n : α} {ds : List α}
    (h : lookup ts n = some ds) (hn : n ∉ g.verts) : fresh ts (g.addVertex n) < fresh ts g := by
  -- the names still fresh after `n` became a vertex are those fresh before, without `n`
  have : (names ts).filter (fun x => x ∉ (g.addVertex n).verts) =
      ((names ts).filter (fun x => x ∉ g.verts)).filter (fun x => x ≠ n) := by
    rw [List.filter_filter]
    exact List.filter_congr fun x _ => by simp [Graph.addVertex, Bool.and_comm]
  unfold fresh
  rw [this]
  exact List.length_filter_lt_length_iff_exists.2
    ⟨n, List.mem_filter.2 ⟨mem_names_of_lookup h, by simpa using hn⟩, by simp⟩

/-- `buildGraph` after the `for _, name := range requested` loop has been unrolled onto the stack -/
def closureLoop (ts : Table α) : Graph α → List (Frame α) → Except Err (Graph α)
  | g, [] => .ok g
  | g, .edge d n :: st =>
    if d ∈ g.verts ∧ n ∈ g.verts then closureLoop ts (g.insEdge d n) st
    else .error .other                                    -- "could not add edge"
  | g, .visit n p :: st =>
    match h : lookup ts n with
    | none => .error (if p.isNone then .noSuchTask else .noSuchDependency)
    | some ds =>
      if hv : n ∈ g.verts then closureLoop ts g st        -- already expanded
      else
        have := fresh_lt h hv
        closureLoop ts (g.addVertex n) (frames n ds ++ st)
termination_by g st => (fresh ts g, st.length)
decreasing_by
  · simp only [Graph.insEdge, fresh]
    exact Prod.Lex.right _ (by simp)
  · exact Prod.Lex.right _ (by simp)
  · exact Prod.Lex.left _ _ this

def closure (ts : Table α) (req : List α) : Except Err (Graph α) :=
  closureLoop ts Graph.empty (req.map fun r => Frame.visit r none)

/-! ## dag.Graph.Sort -/

/-- the order in which Go happens to iterate a map or set: a hint for `range g.vertices` and one for
    `range vert.children.Items()` at each pop.  *Every* value of this type is an admissible oracle (see `reorder`). -/
structure Oracle (α : Type) where
  init : List α
  kids : Nat → List α

/-- iterate the collection `l` in the order suggested by `hint`: always a permutation of `l`
    (`reorder_perm`), and every permutation `p` of `l` is `reorder p l` (`reorder_self`) -/
def reorder : List α → List α → List α
  | [], l => l
  | x :: h, l => if x ∈ l then x :: reorder h (l.erase x) else reorder h l

/-- `vertex.inDegree()` = `parents.Size()`, `par` being all remaining (parent, child) pairs -/
def inDegree (par : List (α × α)) (c : α) : Nat := (par.filter fun e => e.2 = c).length

/-- the members of `vert.children` -/
def children (E : List (α × α)) (v : α) : List α := (E.filter fun e => e.1 = v).map Prod.snd

/-- body of `for child := range vert.children.Items()`; state = (parents relation, queue) -/
def relax (v : α) : List α → List (α × α) × List α → List (α × α) × List α
  | [], s => s
  | c :: cs, (par, q) =>
    let par' := par.filter fun e => ¬ (e.1 = v ∧ e.2 = c)          -- child.parents.Remove(vert)
    relax v cs (par', if inDegree par' c = 0 then q ++ [c] else q)  -- zeroInDegreeQueue.Push(child)

/-- `for !zeroInDegreeQueue.Empty() { … }` with explicit fuel; `none` = fuel exhausted with a non-empty queue -/
def kahnLoop (o : Oracle α) (E : List (α × α)) : Nat → List α → List α → List (α × α) → Option (List α)
  | _, [], acc, _ => some acc
  | 0, _ :: _, _, _ => none
  | fuel + 1, v :: q, acc, par =>
    let s := relax v (reorder (o.kids acc.length) (children E v)) (par, q)
    kahnLoop o E fuel s.2 (acc ++ [v]) s.1

/-- the initial queue: every vertex with in-degree 0, in map-iteration order -/
def initQueue (o : Oracle α) (g : Graph α) : List α :=
  (reorder o.init g.verts).filter fun v => inDegree g.edges v = 0

def sort (o : Oracle α) (g : Graph α) : Outcome (List α) :=
  let q0 := initQueue o g
  if q0 = [] then .error .cycle                 -- "graph contains a cycle and cannot be sorted" (also for the empty graph)
  else match kahnLoop o g.edges g.verts.length q0 [] g.edges with
    | some r => .ok r
    | none => .spin

/-! ## Run -/

/-- run order of `Run(…, tasks...)`, or the error it returns before anything is executed -/
def plan (o : Oracle α) (ts : Table α) (req : List α) : Outcome (List α) :=
  match load ts with
  | .error e => .error e
  | .ok tasks =>
    match closure tasks req with
    | .error e => .error e
    | .ok g =>
      match sort o g with
      | .ok order => if order.length ≠ g.verts.length then .error .cycle else .ok order   -- len(runOrder) != dag.Order()
      | .error e => .error e
      | .spin => .spin

/-- the loop of `run` on a forced run of tasks with one command and no file dependencies: each planned task gets one
    Runner call, its result is appended whatever the exit status, and the loop goes on.  `res` = `results` so far -/
def runLoop (fails : α → Bool) : List α → List (α × Bool) → List (α × Bool)
  | [], res => res
  | t :: rest, res => runLoop fails rest (res ++ [(t, !fails t)])

/-- what an observer of one `Run` sees: error class (`none` = nil error) and the Runner calls in order -/
structure Obs (α : Type) where
  err : Option Err
  calls : List α
  deriving DecidableEq, Repr

def exec (o : Oracle α) (ts : Table α) (req : List α) (fails : α → Bool) : Outcome (Obs α) :=
  match plan o ts req with
  | .ok order => .ok ⟨none, (runLoop fails order []).map Prod.fst⟩
  | .error e => .ok ⟨some e, []⟩
  | .spin => .spin

/-! ## Specification vocabulary (used by the judge's correctness theorem and by `Props/C03.lean`) -/

/-- `n` is requested or reachable from a requested task through declared task dependencies -/
inductive Reach (ts : Table α) (req : List α) : α → Prop
  | req {n : α} : n ∈ req → Reach ts req n
  | dep {m d : α} : Reach ts req m → d ∈ deps ts m → Reach ts req d

/-- `DependsOn ts a b`: task `b` declares task `a` as a dependency (`a` must run before `b`) -/
def DependsOn (ts : Table α) (a b : α) : Prop := a ∈ deps ts b

/-- the dependencies of the selected tasks contain a cycle -/
def Cyclic (ts : Table α) (req : List α) : Prop :=
  ∃ n, Reach ts req n ∧ Relation.TransGen (DependsOn ts) n n

def Undefined (ts : Table α) (n : α) : Prop := lookup ts n = none

/-- the three erroneous configurations of C03 -/
def Erroneous (ts : Table α) (req : List α) : Prop :=
  ¬ (names ts).Nodup ∨ (∃ n, Reach ts req n ∧ Undefined ts n) ∨ Cyclic ts req

/-- `a` comes before `b` in `l` (used for `b ∈ l`; then it also says `a ∈ l`) -/
def Before (l : List α) (a b : α) : Prop := l.idxOf a < l.idxOf b

end Spok.Graph
