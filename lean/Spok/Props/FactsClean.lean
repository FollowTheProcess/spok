import Spok.Generated.Facts

/-! # Expectations over the regenerated facts (`Generated/Facts.lean`) — `--clean` (C12, C19)

The guard of `App.clean` is consulted before anything is removed, and it compares physical paths (D8, D14).  The calls are
extracted from the AST of cli/app/app.go on every run; a removal moved in front of the guard, a second way to remove, or a
guard that compares the paths as written stops these from checking. -/
namespace Spok.Props.FactsClean
open Spok Spok.Generated

/-- in `App.clean` every call of the guard precedes the (single) removal call, and there is no other way to remove -/
theorem clean_guard_before_removal :
    Facts.cleanCalls = ["containsSpokfile", "os.RemoveAll"] := rfl

/-- the guard takes both of its paths through `physical` before relating them, and `physical` resolves the directory
    part and keeps the last element (`Clean.SpokFile.phys`) -/
theorem guard_compares_physical_paths :
    Facts.guardCalls = ["physical", "physical", "filepath.Rel"] ∧
    Facts.physicalCalls = ["filepath.Clean", "filepath.EvalSymlinks", "filepath.Dir", "filepath.Join", "filepath.Base"] :=
  ⟨rfl, rfl⟩

end Spok.Props.FactsClean
