import Spok.App
import Spok.Lemmas.App
import Spok.Judge.Cli
/-! # C19 — spok writes only where the chosen action says it may

"Apart from its cache directory next to the spokfile, spok itself creates, changes or deletes files only as
the chosen action dictates: --fmt rewrites only the spokfile and only when it parses and loads; --init creates
a new spokfile and appends to .gitignore but never overwrites an existing spokfile.  Listing tasks, showing
variables and running tasks whose commands have no side effects leave every other file of the project tree
byte-identical."

`Spok.App.action` is `App.Run` up to its `switch` (the ORDER of the checks is the mechanism: parse and load
happen before any write of `--fmt`; the existence check comes before the write of `--init`), `Spok.App.writes`
lists what each branch writes, `allowedWrites` / `permitted` are the property's table.  The theorems are a
decision table over all option records, argument lists and worlds.  The weight of the claim is on the tie: the
real binary is run in a sandbox `HOME` under every subset of the flags, and the judge `Spok.Judge.Cli.c19`
applies `permitted` to the difference of two full snapshots (path, mode, content hash). -/
namespace Spok.Props.C19
open Spok.App

/-- **C19 (frame).**  Whatever the flags, the task names and the world: every write of the action that
    `App.Run` dispatches to is one the property's table allows for that action. -/
theorem C19_frame (o : Options) (args : List String) (w : World) :
    ∀ d ∈ writes (action o args w), d ∈ allowedWrites (action o args w) w :=
  frame_of_guard (action_guard o args w)

/-- the same at the level of the flags (what the judge applies to the real binary): `permitted` involves no dispatch
    order, so this rests on the order in which `action` makes its checks; that it is the order of `App.Run` is the
    obligation of `Props/FactsApp` -/
theorem C19_frame_flags (o : Options) (args : List String) (w : World) :
    ∀ d ∈ writes (action o args w), permitted o w d = true :=
  flags_of_guard (action_guard o args w)

/-- `--fmt` writes nothing unless the spokfile parses AND loads (and then only the spokfile itself) -/
theorem C19_fmt_needs_parse_and_load (o : Options) (args : List String) (w : World)
    (h : (⟨.spokfile, .modify⟩ : Write) ∈ writes (action o args w)) :
    o.fmt = true ∧ o.init = false ∧ w.parses = true ∧ w.loads = true ∧ w.readable = true ∧
    action o args w = .fmt := by
  have hg := action_guard o args w
  -- `--fmt` is the only action whose writes include the spokfile
  cases ha : action o args w <;> rw [ha] at h hg <;> try (simp [writes] at h; done)
  obtain ⟨hr, hp, hl⟩ := World.ok_parses_loads hg.2.1
  exact ⟨hg.2.2, hg.1, hp, hl, hr, rfl⟩

theorem C19_fmt_only_spokfile (o : Options) (args : List String) (w : World) (h : action o args w = .fmt) :
    writes (action o args w) = [⟨.spokfile, .modify⟩] := by
  rw [h]; rfl

/-- a spokfile that does not parse, or parses and does not load, is never written to, under any flags -/
theorem C19_invalid_spokfile_untouched (o : Options) (args : List String) (w : World)
    (h : w.parses = false ∨ w.loads = false) :
    ∀ d ∈ writes (action o args w), d.target ≠ .spokfile := by
  intro d hd ht
  have hp := C19_frame_flags o args w d hd
  obtain ⟨t, k⟩ := d
  simp only at ht
  subst ht
  cases k <;> cases h <;> simp_all [permitted]

/-- `--init` never overwrites: with a spokfile already in the working directory NOTHING is written
    (not even `.gitignore`), whatever the other flags -/
theorem C19_init_never_overwrites (o : Options) (args : List String) (w : World)
    (hi : o.init = true) (he : w.cwdSpokfile = true) : writes (action o args w) = [] := by
  simp [action, hi, he, writes]

/-- `--init` without one: a NEW spokfile and an append to `.gitignore`, nothing else; the spokfile in use
    (if any was found further up) is not a target -/
theorem C19_init_creates (o : Options) (args : List String) (w : World)
    (hi : o.init = true) (he : w.cwdSpokfile = false) :
    writes (action o args w) = [⟨.cwdSpokfile, .create⟩, ⟨.cwdGitignore, .append⟩] := by
  simp [action, hi, he, writes]

/-- nobody but `--init` creates a spokfile or touches `.gitignore` -/
theorem C19_only_init_creates (o : Options) (args : List String) (w : World) (d : Write)
    (hd : d ∈ writes (action o args w)) (ht : d.target = .cwdSpokfile ∨ d.target = .cwdGitignore) :
    o.init = true ∧ w.cwdSpokfile = false := by
  have hp := C19_frame_flags o args w d hd
  obtain ⟨t, k⟩ := d
  cases ht with
  | inl h => simp only at h; subst h; cases k <;> simp_all [permitted]
  | inr h => simp only at h; subst h; cases k <;> simp_all [permitted]

/-- listing tasks, showing variables and every error path write nothing at all -/
theorem C19_readonly_actions (a : Action)
    (h : a = .show ∨ a = .list ∨ a = .vars ∨ ∃ e, a = .error e) : writes a = [] := by
  rcases h with h | h | h | ⟨e, h⟩ <;> subst h <;> rfl

/-- running tasks (named, default, or a user `clean` task): spok itself writes under `<dir>/.spok` only -/
theorem C19_runs_only_cache (a : Action) (h : a.isRun = true) : ∀ d ∈ writes a, d.target = .cache := by
  rw [writes_of_isRun h]
  intro d hd
  simp only [List.mem_cons, List.not_mem_nil, or_false] at hd
  rcases hd with rfl | rfl <;> rfl

/-- for every action except `--clean` (C12) the only non-cache targets are the three named by the property -/
theorem C19_no_other_target (o : Options) (args : List String) (w : World) (hc : o.clean = false) :
    ∀ d ∈ writes (action o args w), d.target ≠ .outputs := by
  intro d hd ht
  have hp := C19_frame_flags o args w d hd
  obtain ⟨t, k⟩ := d
  simp only at ht
  subst ht
  cases k <;> simp_all [permitted]

/-! ## non-vacuity: each action is reachable, and writing actions do write -/

example : action { fmt := true } [] {} = .fmt := by decide
example : action { fmt := true } [] { parses := false } = .error .parse := by decide
example : action { fmt := true } [] { loads := false } = .error .load := by decide
example : action { fmt := true, quiet := true, debug := true } [] {} = .error .quietDebug := by decide
example : action { init := true, fmt := true } [] { cwdEntry := .file } = .error .initExists := by decide
example : action { init := true } [] { cwdEntry := .linkFile } = .error .initExists := by decide
example : action { init := true } [] { cwdEntry := .dangling, found := false } = .initialise := by decide
example : action { init := true } ["x"] { found := false } = .initialise := by decide
example : action {} [] { found := false } = .error .notFound := by decide
example : action { spokfileGiven := true } [] { found := false, nameOk := false } = .error .badName := by decide
example : action {} [] { hasDefault := true } = .runDefault := by decide
example : action { json := true } [] {} = .list := by decide
example : action { vars := true, «show» := true } ["t"] {} = .vars := by decide
example : action { clean := true } [] { hasClean := true } = .cleanTask := by decide
example : action { force := true } ["a", "b"] {} = .run ["a", "b"] := by decide
example : writes (action { fmt := true } [] {}) ≠ [] := by decide
example : writes (action { init := true } [] {}) ≠ [] := by decide

/-- the judge on an observed diff: `--fmt` on a spokfile that does not load must not have touched it … -/
example :
    let ctx : Spok.Judge.Cli.Ctx :=
      { tasks := [], vars := [], opts := { fmt := true }, args := [], world := { loads := false }, cwd := "proj/sub", spokfile := some "proj/spokfile" }
    Spok.Judge.Cli.c19 ctx { exit := 1, outEmpty := true, json := .none, taskRows := [], varRows := [], log := [],
                             diff := [("proj/spokfile", "mod")], report := "" } = .fail := by
  decide +kernel

/-- … may touch it when it loads, may always fill its cache directory, and nothing else -/
example :
    let ctx : Spok.Judge.Cli.Ctx :=
      { tasks := [], vars := [], opts := { fmt := true }, args := [], world := {}, cwd := "proj/sub", spokfile := some "proj/spokfile" }
    Spok.Judge.Cli.c19 ctx { exit := 0, outEmpty := false, json := .none, taskRows := [], varRows := [], log := [],
                             diff := [("proj/spokfile", "mod"), ("proj/.spok/cache.json", "new")], report := "" } = .ok ∧
    Spok.Judge.Cli.c19 ctx { exit := 0, outEmpty := false, json := .none, taskRows := [], varRows := [], log := [],
                             diff := [("proj/sub/.spok", "new")], report := "" } = .fail := by
  decide +kernel

end Spok.Props.C19
