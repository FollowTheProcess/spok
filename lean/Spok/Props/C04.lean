import Spok.Lemmas.Hash
import Spok.Lemmas.HashPool
import Spok.Basic.Sha256
import Spok.Lemmas.HashJudge
/-! # Property C04 — the digest is a deterministic, change-sensitive function of the file set

Statements about the model `Spok.Hash.digest` (the function) and `Spok.HashPool` (the goroutines), for **every** hash
function `sha : Bytes → Bytes`; nothing cryptographic is assumed. Sensitivity has the reduction form
"… or here is an explicit collision of `sha`" (`Collision sha`), under the one side condition that `sha` has 32-byte
outputs, which the executable SHA-256 used by the oracle satisfies (`sha256_length`, example below).

"Collection of (path, content) pairs" is read with multiplicity (`regs`): a path listed twice is hashed twice, exactly
as the Go code does; for a fixed spokfile the list is a function of the file set, so this is the stronger reading. -/
namespace Spok.Props.C04
open Spok.Hash Spok.HashPool Spok.Judge.Hash

/-- same digest (or same error) for every ordering of the list -/
theorem C04_perm (sha : Bytes → Bytes) {l₁ l₂ : List (Path × Entry)} (h : l₁.Perm l₂) :
    digest sha l₁ = digest sha l₂ :=
  digest_perm sha h

/-- directories in the list are ignored, wherever they stand -/
theorem C04_dirs (sha : Bytes → Bytes) (l : List (Path × Entry)) :
    digest sha (l.filter (fun pe => pe.2 ≠ .dir)) = digest sha l := by
  rw [digest, results_filter_dirs, digest]

/-- appending directories changes nothing -/
theorem C04_dirs_append (sha : Bytes → Bytes) (l dirs : List (Path × Entry)) (hd : ∀ pe ∈ dirs, pe.2 = .dir) :
    digest sha (l ++ dirs) = digest sha l := by
  rw [← C04_dirs sha (l ++ dirs), ← C04_dirs sha l, List.filter_append]
  have : dirs.filter (fun pe => pe.2 ≠ .dir) = [] := by
    apply List.filter_eq_nil_iff.mpr
    intro pe hpe
    simp [hd pe hpe]
  rw [this, List.append_nil]

/-- inserting a directory anywhere changes nothing -/
theorem C04_dirs_insert (sha : Bytes → Bytes) (l₁ l₂ : List (Path × Entry)) (p : Path) :
    digest sha (l₁ ++ (p, .dir) :: l₂) = digest sha (l₁ ++ l₂) := by
  rw [← C04_dirs sha (l₁ ++ (p, .dir) :: l₂), ← C04_dirs sha (l₁ ++ l₂)]
  simp [List.filter_append]

/-- the digest depends only on the collection of (path, content) pairs of the regular files in the list -/
theorem C04_collection (sha : Bytes → Bytes) {l₁ l₂ : List (Path × Entry)}
    (h₁ : ∀ pe ∈ l₁, pe.2 ≠ .unreadable) (h₂ : ∀ pe ∈ l₂, pe.2 ≠ .unreadable)
    (h : (regs l₁).Perm (regs l₂)) : digest sha l₁ = digest sha l₂ := by
  simp [digest_eq, any_isUnreadable_eq_false h₁, any_isUnreadable_eq_false h₂, sort_eq_of_perm (h.map (itemOf sha))]

/-- two lists whose collections of regular (path, content) pairs differ have different digests — or the equality of
    the digests hands over two different byte strings with the same `sha` -/
theorem C04_sensitive {sha : Bytes → Bytes} (h32 : ∀ x, (sha x).length = 32) {l₁ l₂ : List (Path × Entry)} {d : String}
    (hd₁ : digest sha l₁ = .ok d) (hd₂ : digest sha l₂ = .ok d) (hne : ¬ (regs l₁).Perm (regs l₂)) :
    Collision sha :=
  (regs_perm_of_digest_eq h32 hd₁ hd₂).resolve_left hne

/-- the same as a disjunction: different collections have different digests, or `sha` has an explicit collision.
    (A hypothesis "`sha` has no collision" would be unsatisfiable for a 32-byte hash and make the statement vacuous.) -/
theorem C04_sensitive_or {sha : Bytes → Bytes} (h32 : ∀ x, (sha x).length = 32)
    {l₁ l₂ : List (Path × Entry)} {d₁ d₂ : String} (hd₁ : digest sha l₁ = .ok d₁) (hd₂ : digest sha l₂ = .ok d₂)
    (hne : ¬ (regs l₁).Perm (regs l₂)) : d₁ ≠ d₂ ∨ Collision sha := by
  by_cases h : d₁ = d₂
  · subst h
    exact .inr (C04_sensitive h32 hd₁ hd₂ hne)
  · exact .inl h

/-- changing the content of a listed file (anything else may change too) -/
theorem C04_content_change {sha : Bytes → Bytes} (h32 : ∀ x, (sha x).length = 32) {fs fs' : Path → Entry}
    {paths : List Path} {p : Path} {c c' : Bytes} {d : String} (hp : p ∈ paths)
    (hfs : fs p = .regular c) (hfs' : fs' p = .regular c') (hc : c ≠ c')
    (hd₁ : digest sha (listing fs paths) = .ok d) (hd₂ : digest sha (listing fs' paths) = .ok d) :
    Collision sha := by
  apply C04_sensitive h32 hd₁ hd₂
  intro hperm
  have h2 := mem_regs_listing.mp (hperm.mem_iff.mp (mem_regs_listing.mpr ⟨hp, hfs⟩))
  rw [hfs'] at h2
  injection h2.2 with e
  exact hc e.symm

/-- a regular file whose path occurs in one list and not in the other (the common core of add / remove / rename) -/
theorem C04_path_differs {sha : Bytes → Bytes} (h32 : ∀ x, (sha x).length = 32) {fs₁ fs₂ : Path → Entry}
    {paths₁ paths₂ : List Path} {q : Path} {c : Bytes} {d : String} (hq : q ∈ paths₂) (hfs : fs₂ q = .regular c)
    (hnew : q ∉ paths₁)
    (hd₁ : digest sha (listing fs₁ paths₁) = .ok d) (hd₂ : digest sha (listing fs₂ paths₂) = .ok d) :
    Collision sha := by
  apply C04_sensitive h32 hd₁ hd₂
  intro hperm
  exact hnew (mem_regs_listing.mp (hperm.mem_iff.mpr (mem_regs_listing.mpr ⟨hq, hfs⟩))).1

/-- adding a file -/
theorem C04_add {sha : Bytes → Bytes} (h32 : ∀ x, (sha x).length = 32) {fs : Path → Entry} {pre post : List Path}
    {q : Path} {c : Bytes} {d : String} (hfs : fs q = .regular c) (hnew : q ∉ pre ++ post)
    (hd₁ : digest sha (listing fs (pre ++ post)) = .ok d) (hd₂ : digest sha (listing fs (pre ++ q :: post)) = .ok d) :
    Collision sha :=
  C04_path_differs h32 (by simp) hfs hnew hd₁ hd₂

/-- removing a file -/
theorem C04_remove {sha : Bytes → Bytes} (h32 : ∀ x, (sha x).length = 32) {fs : Path → Entry} {pre post : List Path}
    {q : Path} {c : Bytes} {d : String} (hfs : fs q = .regular c) (hnew : q ∉ pre ++ post)
    (hd₁ : digest sha (listing fs (pre ++ q :: post)) = .ok d) (hd₂ : digest sha (listing fs (pre ++ post)) = .ok d) :
    Collision sha :=
  C04_path_differs h32 (by simp) hfs hnew hd₂ hd₁

/-- renaming a file `p` to a new name `q` (`fs₂` is the file system after the rename) -/
theorem C04_rename {sha : Bytes → Bytes} (h32 : ∀ x, (sha x).length = 32) {fs₁ fs₂ : Path → Entry}
    {pre post : List Path} {p q : Path} {c : Bytes} {d : String} (hfs : fs₂ q = .regular c)
    (hnew : q ∉ pre ++ p :: post)
    (hd₁ : digest sha (listing fs₁ (pre ++ p :: post)) = .ok d)
    (hd₂ : digest sha (listing fs₂ (pre ++ q :: post)) = .ok d) :
    Collision sha :=
  C04_path_differs h32 (by simp) hfs hnew hd₁ hd₂

/-- every schedule of the worker pool, for every number of CPUs, ends with the digest of the function `digest` -/
theorem C04_schedule_independent (sha : Bytes → Bytes) {ncpu : Nat} (hcpu : 0 < ncpu) (files : List (Path × Entry))
    {s : St Res} (hr : Reachable ncpu (files.map (jobResult sha)) s) (hf : final s) :
    finish sha s.acc = digest sha files :=
  finish_of_final sha hcpu files hr hf

/-- the judge accepts what the model does — or `sha` has a collision: for a fault-free base list, variants
    that have the same collection (`same`) and variants whose collection differs (`edit`) -/
theorem C04_judge_accepts_model {sha : Bytes → Bytes} (h32 : ∀ x, (sha x).length = 32)
    (base : Obs) (vs : List (Rel × Obs)) (hb : cleanObs base = true)
    (hsame : ∀ v ∈ vs, v.1 = .same → cleanObs v.2 = true ∧ (regs (filesOf v.2)).Perm (regs (filesOf base)))
    (hedit : ∀ v ∈ vs, v.1 = .edit → cleanObs v.2 = true → ¬ (regs (filesOf v.2)).Perm (regs (filesOf base))) :
    c04 (modelRun sha .base base :: vs.map fun v => modelRun sha v.1 v.2) = some true ∨ Collision sha := by
  by_cases hnc : Collision sha
  · exact .inr hnc
  left
  obtain ⟨db, hdb⟩ := clean_digest sha hb
  simp only [c04, modelRun_clean, hb, Bool.not_true, Bool.false_eq_true, if_false, Option.some.injEq, List.all_cons,
    List.all_map, Function.comp_def, modelRun_selfOk, Bool.true_and, Bool.and_eq_true, List.all_eq_true, implies_true, true_and]
  intro v hv
  rw [Run.relOk]
  cases hrel : v.1 with
  | base | other => simp [modelRun]
  | same =>
    obtain ⟨hc, hp⟩ := hsame v hv hrel
    simp [modelRun, C04_collection sha (clean_readable hc) (clean_readable hb) hp]
  | edit =>
    simp only [modelRun_clean]
    cases hc : cleanObs v.2 with
    | false => simp [modelRun]
    | true =>
      obtain ⟨dv, hdv⟩ := clean_digest sha hc
      have hne : dv ≠ db := (C04_sensitive_or h32 hdv hdb (hedit v hv hrel hc)).resolve_right hnc
      simp [modelRun, digestsOf, hdv, hdb, outOf, hne]

/-! ## the hypotheses are satisfiable (non-vacuity) -/

/-- the executable SHA-256 meets the side condition of the sensitivity theorems -/
example : ∀ x, (Spok.Sha256.sha256 x).length = 32 := Spok.Sha256.sha256_length

def zsha : Bytes → Bytes := fun _ => List.replicate 32 0
def fsEx : Path → Entry := fun p => if p = [97] then .regular [1] else if p = [98] then .regular [] else if p = [100] then .dir else .unreadable

/-- C04_perm: a non-trivial permutation -/
example : (listing fsEx [[97], [100], [98]]).Perm (listing fsEx [[98], [97], [100]]) := by decide
/-- C04_dirs / C04_dirs_append: a list with a directory in it, and a non-empty list of directories -/
example : ∀ pe ∈ listing fsEx [[100]], pe.2 = .dir := by decide
example : (listing fsEx [[97], [100], [98]]).filter (fun pe => pe.2 ≠ .dir) = listing fsEx [[97], [98]] := by decide
/-- C04_collection: two different lists with the same collection, none unreadable -/
example : (∀ pe ∈ listing fsEx [[97], [100], [98]], pe.2 ≠ .unreadable) ∧ (∀ pe ∈ listing fsEx [[98], [97]], pe.2 ≠ .unreadable)
    ∧ (regs (listing fsEx [[97], [100], [98]])).Perm (regs (listing fsEx [[98], [97]])) := by decide
/-- C04_sensitive: all hypotheses hold together for a (bad) 32-byte hash function — and then a collision is indeed
    what comes out; for a collision-free function they cannot hold together, which is the property (see C04_sensitive_or) -/
example : (∀ x, (zsha x).length = 32) ∧ (∃ d, digest zsha (listing fsEx [[97]]) = .ok d ∧ digest zsha (listing fsEx [[98]]) = .ok d)
    ∧ ¬ (regs (listing fsEx [[97]])).Perm (regs (listing fsEx [[98]])) := by
  refine ⟨fun _ => by simp [zsha], ⟨_, rfl, rfl⟩, by decide⟩
/-- the digests exist (are `.ok`) for readable lists, so `hd₁ hd₂` are not vacuous for any `sha` -/
example (sha : Bytes → Bytes) : ∃ d, digest sha (listing fsEx [[97], [100], [98]]) = .ok d := ⟨_, rfl⟩
/-- content change / add / remove / rename: the side hypotheses are satisfiable -/
example : [97] ∈ [[97], [98]] ∧ fsEx [97] = .regular [1] ∧ (fun p => if p = [97] then Entry.regular [2] else fsEx p) [97] = .regular [2]
    ∧ ([1] : Bytes) ≠ [2] := by decide
example : fsEx [98] = .regular [] ∧ [98] ∉ ([[97]] ++ [[100]] : List Path) := by decide
/-- schedule independence: reachable final states exist for every input (`Spok.Props.C18.pool_can_finish`);
    here the smallest one, the empty list, where main may even leave before the feeder has closed `jobs` -/
example : Reachable 4 (([] : List (Path × Entry)).map (jobResult zsha)) { (init 4 []) with resultsClosed := true, mainDone := true }
    ∧ final ({ (init 4 []) with resultsClosed := true, mainDone := true } : St Res) :=
  ⟨.step (.step .init (.closeResults _ (by simp [init, nWorkers]) rfl)) (.mainExit _ rfl rfl), rfl⟩

/-- C04_judge_accepts_model: a fault-free base with a `same` and an `edit` variant meeting the hypotheses -/
example : cleanObs [(.file, [97], [1]), (.dir, [100], [])] = true
    ∧ (regs (filesOf [(.dir, [100], []), (.file, [97], [1])])).Perm (regs (filesOf [(.file, [97], [1]), (.dir, [100], [])]))
    ∧ ¬ (regs (filesOf [(.file, [97], [2])])).Perm (regs (filesOf [(.file, [97], [1]), (.dir, [100], [])])) := by decide

/-- why the item has to be fixed-width (DESIGN §6 D3): with the pinned framing `sha content ++ path` the concatenation of
    the items of two files *is* the item of one file with a longer path — for every `sha`, no collision involved.
    (`corpus/hash/d03-framing.txt` is this witness for the real hasher.) -/
example (sha : Bytes → Bytes) (p₁ p₂ c₁ c₂ : Bytes) :
    (sha c₁ ++ p₁) ++ (sha c₂ ++ p₂) = sha c₁ ++ (p₁ ++ sha c₂ ++ p₂) := by
  simp [List.append_assoc]

end Spok.Props.C04
