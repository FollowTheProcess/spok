import Spok.Basic.Sha256
import Spok.Lemmas.RunHash
import Spok.Props.C02
import Spok.Props.C10
/-! # C01 ∘ C04 — a skip is sound up to a SHA-256 collision

The run engine (C01, C10, C14) proves skip soundness for an ABSTRACT digest, "… or two different input lists have the
same digest".  The hash engine (C04) proves that the REAL digest function separates different collections of files,
"… or `sha` collided".  Here the two are composed: the run machine is instantiated with

    digestSha sha pathOf contentOf items = code (Hash.digest sha (concrete pathOf contentOf items))

(`Lemmas/RunHash`: `pathOf`, `contentOf` arbitrary injective namings of the abstract file / content ids, `code` an
injective coding of the hasher's result in `Nat`), and the conclusion is: whenever the machine skips a task, the
(file, content) pairs it is handed now are — as a collection, with multiplicity — exactly those its commands last
completed successfully on, **or `sha` itself has an explicit collision** (`Hash.Collision sha = ∃ x y, x ≠ y ∧ sha x = sha y`).
The only assumption on `sha` is `∀ x, (sha x).length = 32`, which the executable SHA-256 satisfies (`sha256_length`).

"As a collection" (`List.Perm`) and not "equal as lists" is forced: the real hasher sorts, so two different listings of the
same files have the same digest without any collision (`permuted_listing_is_skipped` below).  For the same reason these
theorems are NOT instances of `C01_skip_sound`: its collision disjunct `∃ i j, i ≠ j ∧ digest i = digest j` is trivially
true for `digestSha`.  They are re-derived from the invariant `Inv` (`skip_sound_upto`).

All histories: any length, any number of tasks, edits, cache removals, forced / failing invocations, kills after any
number of micro-steps (`Reach … false`). -/
namespace Spok.Props.C01Sha
open Spok Spok.Run Spok.RunHash

section
variable {sha : Bytes → Bytes} {pathOf : Nat → Path} {contentOf : Nat → Bytes}

/-- **C01 ∘ C04.** Whenever, in any history whatsoever, the machine running on the real digest function is about to report
    task `t` skipped, the files (paths and contents) `t`'s commands last completed successfully on — cache not removed
    since — are, as a collection, exactly its current dependency files; or else SHA-256 has collided. -/
theorem C01_skip_sound_sha (h32 : ∀ x, (sha x).length = 32)
    (hp : Function.Injective pathOf) (hc : Function.Injective contentOf)
    {s : St} (hr : Reach (digestSha sha pathOf contentOf) false s) (t : TaskIn) (rest : List TaskIn)
    (_hpc : s.pc = .decide) (_hto : s.todo = t :: rest) (hskip : skipTest (digestSha sha pathOf contentOf) s t = true) :
    (∃ its, s.last t.name = some its ∧ its.Perm t.inp.items) ∨ Hash.Collision sha :=
  skip_sound_upto (digestSha sha pathOf contentOf) List.Perm (Hash.Collision sha)
    (fun _ _ h => digestSha_collision sha pathOf contentOf h32 hp hc h) s
    (reach_inv (digestSha sha pathOf contentOf) hr) t hskip

/-- the same in terms of the concrete files: the regular (path, content) pairs handed to the hasher now are a
    permutation of those of the last successful completion -/
theorem C01_skip_sound_sha_files (h32 : ∀ x, (sha x).length = 32)
    (hp : Function.Injective pathOf) (hc : Function.Injective contentOf)
    {s : St} (hr : Reach (digestSha sha pathOf contentOf) false s) (t : TaskIn) (rest : List TaskIn)
    (hpc : s.pc = .decide) (hto : s.todo = t :: rest) (hskip : skipTest (digestSha sha pathOf contentOf) s t = true) :
    (∃ its, s.last t.name = some its ∧
        (Hash.regs (concrete pathOf contentOf its)).Perm (Hash.regs (concrete pathOf contentOf t.inp.items))) ∨
      Hash.Collision sha := by
  rcases C01_skip_sound_sha h32 hp hc hr t rest hpc hto hskip with ⟨its, hl, hperm⟩ | h
  · exact .inl ⟨its, hl, by rw [regs_concrete, regs_concrete]; exact hperm.map _⟩
  · exact .inr h

/-- **C10 ∘ C04, the invariant.** After any history with kills anywhere, the cache file is unparsable, or absent with
    nothing remembered, or every entry in it is the (code of the) real digest of the files its task last succeeded on. -/
theorem C10_crash_safe_sha (sha : Bytes → Bytes) (pathOf : Nat → Path) (contentOf : Nat → Bytes) (h : History) :
    match (runHistory (digestSha sha pathOf contentOf) World.init h).1.disk with
    | .corrupt => True
    | .missing => ∀ t, (runHistory (digestSha sha pathOf contentOf) World.init h).1.last t = none
    | .valid m => ∀ t d, m t = some d →
        ∃ i, (runHistory (digestSha sha pathOf contentOf) World.init h).1.last t = some i ∧
          code (Hash.digest sha (concrete pathOf contentOf i)) = d :=
  C10.C10_crash_safe (digestSha sha pathOf contentOf) h

/-- **C10 ∘ C04, skips after kills.** `Reach … false` places no restriction on `crashAt`: after kills at arbitrary
    micro-steps of arbitrary earlier invocations, a later invocation never skips a task whose collection of files
    differs from that of its last success — or SHA-256 has collided. -/
theorem C10_skip_sound_after_kills_sha (h32 : ∀ x, (sha x).length = 32)
    (hp : Function.Injective pathOf) (hc : Function.Injective contentOf)
    {s : St} (hr : Reach (digestSha sha pathOf contentOf) false s) (t : TaskIn) (rest : List TaskIn)
    (hpc : s.pc = .decide) (hto : s.todo = t :: rest) (hskip : skipTest (digestSha sha pathOf contentOf) s t = true) :
    (∃ its, s.last t.name = some its ∧ its.Perm t.inp.items) ∨ Hash.Collision sha :=
  C01_skip_sound_sha h32 hp hc hr t rest hpc hto hskip

/-- **C14 ∘ C04, second half.** A forced run does not damage the cache: the histories quantified over contain forced
    invocations anywhere, and the ghost is updated by forced successes like any other. -/
theorem C14_forced_history_sound_sha (h32 : ∀ x, (sha x).length = 32)
    (hp : Function.Injective pathOf) (hc : Function.Injective contentOf)
    {s : St} (hr : Reach (digestSha sha pathOf contentOf) false s) (t : TaskIn) (rest : List TaskIn)
    (hpc : s.pc = .decide) (hto : s.todo = t :: rest) (hskip : skipTest (digestSha sha pathOf contentOf) s t = true) :
    (∃ its, s.last t.name = some its ∧ its.Perm t.inp.items) ∨ Hash.Collision sha :=
  C01_skip_sound_sha h32 hp hc hr t rest hpc hto hskip

/-- **C02 ∘ C04 (the converse; no collision disjunct, no assumption on `sha`).** In an invocation that follows a crash-free
    history, an unforced task that hands ≥ 1 regular file to the hasher and whose last success was on the same
    collection of files — in whatever order they are listed now — is skipped.  So `Perm` in `C01_skip_sound_sha` cannot
    be strengthened to equality. -/
theorem C02_skip_complete_sha (sha : Bytes → Bytes) (pathOf : Nat → Path) (contentOf : Nat → Bytes)
    {s : St} (hr : Reach (digestSha sha pathOf contentOf) true s) (t : TaskIn) (rest : List TaskIn)
    (hpc : s.pc = .decide) (_hto : s.todo = t :: rest) (hf : s.force = false)
    (its : Items) (hl : s.last t.name = some its) (hperm : its.Perm t.inp.items) (hne : t.inp.items ≠ []) :
    skipTest (digestSha sha pathOf contentOf) s t = true := by
  have hne' : its ≠ [] := fun h => hne (by rw [h] at hperm; exact hperm.nil_eq.symm)
  exact skip_complete_upto (digestSha sha pathOf contentOf) List.Perm
    (fun _ _ h => digestSha_perm sha pathOf contentOf h) s (C02.reach_cinv _ hr) t hpc hf its hl hperm hne' (Inputs.n_pos hne)

end

/-! ## non-vacuity -/

/-- the injectivity hypotheses are satisfiable -/
example : Function.Injective pathU ∧ Function.Injective contentU := ⟨pathU_injective, contentU_injective⟩

/-- a (bad) hash function with 32-byte output -/
def zsha : Bytes → Bytes := fun _ => List.replicate 32 0

example : ∀ x, (zsha x).length = 32 := fun _ => by simp [zsha]

/-- run, run again: all hypotheses of `C01_skip_sound_sha` are met by a real skip, for `zsha` … -/
example : (∀ x, (zsha x).length = 32) ∧ Function.Injective pathU ∧ Function.Injective contentU ∧
    ∃ s t rest, Reach (digestSha zsha pathU contentU) false s ∧ s.pc = .decide ∧ s.todo = t :: rest ∧
      skipTest (digestSha zsha pathU contentU) s t = true :=
  ⟨fun _ => by simp [zsha], pathU_injective, contentU_injective, skip_reachable _⟩

/-- … (for which the second disjunct of the conclusion of course holds: every two inputs collide) … -/
example : Hash.Collision zsha := ⟨[], [0], by decide, rfl⟩

/-- … and for the executable SHA-256 (FIPS 180-4, `Spok.Sha256.sha256`, the one the oracle compares byte for byte
    with `crypto/sha256`), … -/
example : (∀ x, (Sha256.sha256 x).length = 32) ∧ Function.Injective pathU ∧ Function.Injective contentU ∧
    ∃ s t rest, Reach (digestSha Sha256.sha256 pathU contentU) false s ∧ s.pc = .decide ∧ s.todo = t :: rest ∧
      skipTest (digestSha Sha256.sha256 pathU contentU) s t = true :=
  ⟨Sha256.sha256_length, pathU_injective, contentU_injective, skip_reachable _⟩

/-- … and indeed for every hash function whatsoever -/
example (sha : Bytes → Bytes) (pathOf : Nat → Path) (contentOf : Nat → Bytes) :
    ∃ s t rest, Reach (digestSha sha pathOf contentOf) false s ∧ s.pc = .decide ∧ s.todo = t :: rest ∧
      skipTest (digestSha sha pathOf contentOf) s t = true :=
  skip_reachable _

/-- what the instantiated machine computes with the executable SHA-256, evaluated in the kernel: the cache entry after
    a run on the files `a` (content `x`) and `aa` (content `xx`) is (the code of the hex string of) the 32 bytes
    `696a4832…b82a3806` that `crypto/sha256` gives for the sorted 64-byte items `sha256(content) ‖ sha256(path)`,
    in either listing order -/
theorem rawDigest_sha256_example : rawDigest Sha256.sha256 pathU contentU [(0, 1), (1, 2)] =
    [0x69, 0x6a, 0x48, 0x32, 0xcd, 0x17, 0xd1, 0x26, 0xf9, 0xf5, 0x1c, 0xde, 0x07, 0x98, 0xa4, 0xc9,
     0xe7, 0x74, 0xf7, 0x26, 0x93, 0x3d, 0x62, 0x2e, 0x5f, 0xd5, 0xa6, 0xc8, 0xb8, 0x2a, 0x38, 0x06] := by
  rw [Sha256.sha256_eq]
  exact rawDigest_eq_of_sorted _ _ _ _ _ (by decide +kernel)
example : rawDigest Sha256.sha256 pathU contentU [(1, 2), (0, 1)] =
    [0x69, 0x6a, 0x48, 0x32, 0xcd, 0x17, 0xd1, 0x26, 0xf9, 0xf5, 0x1c, 0xde, 0x07, 0x98, 0xa4, 0xc9,
     0xe7, 0x74, 0xf7, 0x26, 0x93, 0x3d, 0x62, 0x2e, 0x5f, 0xd5, 0xa6, 0xc8, 0xb8, 0x2a, 0x38, 0x06] := by
  rw [rawDigest_perm _ _ _ (List.Perm.swap ..)]
  exact rawDigest_sha256_example
example (items : Items) : Hash.digest Sha256.sha256 (concrete pathU contentU items) =
    .ok (Hash.hex (rawDigest Sha256.sha256 pathU contentU items)) :=
  digest_concrete_eq _ _ _ items

/-- **`Perm` cannot be strengthened to equality.** Run on `[a, aa]`, re-list the same files as `[aa, a]`, run again:
    the instantiated machine skips (for every `sha`; the real hasher sorts), with `last ≠ current` as lists and no
    collision involved — the first disjunct of `C01_skip_sound_sha` holds with a non-trivial permutation. -/
theorem permuted_listing_is_skipped (sha : Bytes → Bytes) (pathOf : Nat → Path) (contentOf : Nat → Bytes) :
    ∃ s t rest, Reach (digestSha sha pathOf contentOf) false s ∧ s.pc = .decide ∧ s.todo = t :: rest ∧
      skipTest (digestSha sha pathOf contentOf) s t = true ∧
      s.last t.name = some [(0, 1), (1, 2)] ∧ t.inp.items = [(1, 2), (0, 1)] := by
  obtain ⟨h1, h2, h3, h4, h5⟩ := atDecide_hRun (digestSha sha pathOf contentOf) [(1, 2), (0, 1)]
  refine ⟨_, ⟨0, ⟨0, [(1, 2), (0, 1)]⟩, true, true⟩, [], atDecide_reach _ _, h1, h2, ?_, ?_, rfl⟩
  · have hperm : digestSha sha pathOf contentOf [(0, 1), (1, 2)] = digestSha sha pathOf contentOf [(1, 2), (0, 1)] :=
      digestSha_perm sha pathOf contentOf (List.Perm.swap ..)
    simp [skipTest, h3, h4, Inputs.n, hperm]
  · dsimp only; exact h5

/-- the hypotheses of `C02_skip_complete_sha` are met (crash-free history, permuted listing) -/
example (sha : Bytes → Bytes) (pathOf : Nat → Path) (contentOf : Nat → Bytes) :
    ∃ s t rest its, Reach (digestSha sha pathOf contentOf) true s ∧ s.pc = .decide ∧ s.todo = t :: rest ∧
      s.force = false ∧ s.last t.name = some its ∧ its.Perm t.inp.items ∧ its ≠ t.inp.items ∧ t.inp.items ≠ [] := by
  obtain ⟨h1, h2, h3, _, h5⟩ := atDecide_hRun (digestSha sha pathOf contentOf) [(1, 2), (0, 1)]
  exact ⟨_, ⟨0, ⟨0, [(1, 2), (0, 1)]⟩, true, true⟩, [], [(0, 1), (1, 2)],
    atDecide_reach_cf _ _ (by decide), h1, h2, h3, (by dsimp only; exact h5), List.Perm.swap .., by decide, by decide⟩

/-- an edit is seen: with the executable SHA-256 (kernel evaluation) the digests of `a ↦ x` and `a ↦ xx` differ, so
    after a run on the former and an edit to the latter the instantiated machine does not skip -/
example : digestSha Sha256.sha256 pathU contentU [(0, 1)] ≠ digestSha Sha256.sha256 pathU contentU [(0, 2)] := by
  rw [Ne, digestSha_eq_iff_raw, Sha256.sha256_eq, rawDigest_of_sorted _ _ _ _ (by simp [pairOf]),
    rawDigest_of_sorted _ _ _ _ (by simp [pairOf])]
  decide +kernel

end Spok.Props.C01Sha
