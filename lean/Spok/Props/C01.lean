import Spok.Lemmas.RunHist
/-! # C01 — a task is never skipped unless its inputs equal those of its last success

All theorems are about the machine `Spok.Run.step` / `runHistory` for an arbitrary `digest` (never assumed injective:
conclusions are "… ∨ the digest has a collision"), over ALL histories: any length, any number of tasks, any interleaving of
edits, cache removals, forced / failing / multi-task invocations, and kills after any number of micro-steps. -/
namespace Spok.Props.C01
open Spok.Run Spok.Judge.Run

variable (digest : Items → Digest)

/-- every state met in any history (including after kills) satisfies the soundness invariant -/
theorem reach_inv {s : St} (h : Reach digest false s) : Inv digest s := inv_of_reach digest h

/-- **C01.** Whenever, in any history whatsoever, the machine is about to report task `t` skipped, the files `t`'s commands
    last completed successfully on — with the cache not removed since — are exactly its current dependency files;
    or else two different file sets have the same digest. -/
theorem C01_skip_sound {s : St} (hr : Reach digest false s) (t : TaskIn) (rest : List TaskIn)
    (_hpc : s.pc = .decide) (_hto : s.todo = t :: rest) (hskip : skipTest digest s t = true) :
    s.last t.name = some t.inp.items ∨ ∃ i j : Items, i ≠ j ∧ digest i = digest j :=
  skip_sound digest s (reach_inv digest hr) t hskip

/-- **C01, observable form.** The judge (ghost replay of what a bystander observes, no cache model) accepts every history
    the model produces — or the digest has a collision. -/
theorem C01_judge_accepts (h : History) :
    c01 (runHistory digest World.init h).2 = true ∨ ∃ i j : Items, i ≠ j ∧ digest i = digest j :=
  (Classical.em (Collision digest)).symm.imp (fun hnc => (judges_accept digest hnc h).1) id

/-- **C09 (cache clause).** A failing task leaves its recorded digest and its ghost entry as they were: from the decision
    to run a task whose commands fail, at most 5 micro-steps later the machine is at the next task with the same
    cache contents (in memory and on disk) and the same ghost; the log gained exactly `ranFail`. -/
theorem C09_failure_not_recorded (s : St) (t : TaskIn) (rest : List TaskIn)
    (hpc : s.pc = .decide) (hto : s.todo = t :: rest) (hr : t.readable = true) (hfail : t.ok = false)
    (hns : skipTest digest s t = false) (hdk : s.disk = .valid s.mem) :
    ∃ k, k ≤ 5 ∧
      (iter digest k s).pc = .decide ∧ (iter digest k s).todo = rest ∧
      (∀ u, (iter digest k s).mem u = s.mem u) ∧ (iter digest k s).last = s.last ∧
      (iter digest k s).disk = .valid (iter digest k s).mem ∧
      (iter digest k s).out = s.out ++ [(t.name, .ranFail)] := by
  cases hm : s.mem t.name with
  | none =>
    refine ⟨3, by omega, ?_⟩
    simp [iter, step, hpc, hto, hr, hns, hm, hfail, recorded, res, hdk]
  | some d =>
    refine ⟨5, by omega, ?_⟩
    simp [iter, step, hpc, hto, hr, hns, hm, hfail, recorded, res]
    intro u
    unfold upd
    split
    · rename_i e; rw [e, hm]
    · rfl

theorem judgeWith_mono {p q : Ghost → OEvent → Bool} (hpq : ∀ g e, p g e = true → q g e = true) :
    ∀ (g : Ghost) (oh : ObservedHistory), judgeWith p g oh = true → judgeWith q g oh = true
  | _, [], _ => rfl
  | g, e :: es, h => by
    simp only [judgeWith, Bool.and_eq_true] at h ⊢
    exact ⟨hpq g e h.1, judgeWith_mono hpq _ es h.2⟩

/-- **C09, observable form (run loop).** The judge of the run engine's C09 clause — the report never contradicts what ran,
    and no later skip of a task without the ghost agreeing — accepts every history the model produces, or the digest has a
    collision. -/
theorem C09_judge_accepts (h : History) :
    c09 (runHistory digest World.init h).2 = true ∨ ∃ i j : Items, i ≠ j ∧ digest i = digest j :=
  (Classical.em (Collision digest)).symm.imp (fun hnc => (judges_accept digest hnc h).2.1) id

/-! ## non-vacuity: concrete histories (digest = `natDigest`) -/

/-- task 0 depends on one file (path 0, content 1), then content 2 -/
def inpV1 : Name → Option Inputs := fun _ => some ⟨0, [(0, 1)]⟩
def inpV2 : Name → Option Inputs := fun _ => some ⟨0, [(0, 2)]⟩
def noFail : Name → Bool := fun _ => false
def allFail : Name → Bool := fun _ => true

/-- run, run again: the second run reports a skip (so the hypotheses of `C01_skip_sound` are met by a real skip) -/
def hSkip : History := [.edit inpV1, .invoke false [0] noFail none]

example : ∃ s t rest, Reach natDigest false s ∧ s.pc = .decide ∧ s.todo = t :: rest ∧ skipTest natDigest s t = true :=
  ⟨_, _, _, .step (.start hSkip (by simp) false [0] noFail), rfl, rfl, by decide⟩

example : (runHistory natDigest World.init (hSkip ++ [.invoke false [0] noFail none])).2.getLast?
    = some (.invoke false [0] [(0, .skipped)] .done .valid) := by rfl

/-- edit, revert: run on v1, edit to v2 and force, revert to v1, run: NOT skipped (the D1 witness of DESIGN §6) -/
example : ((runHistory natDigest World.init
    [.edit inpV1, .invoke false [0] noFail none, .edit inpV2, .invoke true [0] noFail none,
     .edit inpV1, .invoke false [0] noFail none]).2.getLast?)
    = some (.invoke false [0] [(0, .ranOk)] .done .valid) := by rfl

/-- a failing run meets the hypotheses of `C09_failure_not_recorded`: after a success on v1, edit, fail on v2 -/
example : ∃ s t rest, Reach natDigest false s ∧ s.pc = .decide ∧ s.todo = t :: rest ∧ t.readable = true ∧ t.ok = false ∧
    skipTest natDigest s t = false ∧ s.disk = .valid s.mem ∧ s.mem t.name = some (natDigest [(0, 1)]) :=
  ⟨_, _, _, .step (.start (hSkip ++ [.edit inpV2]) (by simp) false [0] allFail), rfl, rfl, rfl, rfl, by decide, rfl, rfl⟩

/-- … and the failing run is observed as such, after which reverting to v1 is skipped again (the digest of v1 survived) -/
example : ((runHistory natDigest World.init
    (hSkip ++ [.edit inpV2, .invoke false [0] allFail none, .edit inpV1, .invoke false [0] noFail none])).2.drop 3)
    = [.invoke false [0] [(0, .ranFail)] .done .valid, .edit inpV1, .invoke false [0] [(0, .skipped)] .done .valid] := by
  rfl

example : c01 (runHistory natDigest World.init
    (hSkip ++ [.edit inpV2, .invoke false [0] allFail none, .edit inpV1, .invoke false [0] noFail (some 2)])).2 = true := by
  decide

/-- the corner where C02 and the last sentence of C09 pull apart (DESIGN §12): success on v1, a FORCED run on the same v1
    whose command fails, then a plain run — skipped: the last successful completion was on exactly these inputs (what
    C02 demands), and the failure recorded nothing (what the run loop's part of C09 says) -/
example : ((runHistory natDigest World.init
    (hSkip ++ [.invoke true [0] allFail none, .invoke false [0] noFail none])).2.drop 2)
    = [.invoke true [0] [(0, .ranFail)] .done .valid, .invoke false [0] [(0, .skipped)] .done .valid] := by
  rfl

/-- the judge is not trivially true: a fabricated observation with an unjustified skip is rejected -/
example : c01 [.edit inpV1, .invoke false [0] [(0, .ranOk)] .done .valid, .edit inpV2,
    .invoke false [0] [(0, .skipped)] .done .valid] = false := by decide

end Spok.Props.C01
