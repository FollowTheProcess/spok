import Spok.Lemmas.Hash
import Spok.Lemmas.HashPool
import Spok.Lemmas.HashJudge
/-! # Property C18 — hashing any path list returns cleanly: no crash, deadlock, race or leak

**PARTIAL BY NATURE.** What is proved is the *channel protocol* of `hash.Concurrent.Hash` (`Spok.HashPool`: feeder,
`min(NumCPU, len(files))` workers, waiter, main; unbuffered channels as rendezvous), for every list of jobs (empty, one,
thousands, duplicates, directories, unreadable entries — an entry is just a job that yields an item, an error or
nothing), every number of CPUs ≥ 1 and **every** interleaving: no deadlock and no goroutine left blocked, every schedule
finite, one result whatever the schedule, an error for an unreadable member.  "No crash" is no theorem: the model is a
total function / relation with no `.panic` outcome, because the worker has no partial operation (the `f.Stat()` on a nil
file of DESIGN §6 D12 is repaired; the harness keeps the witness in its corpus and observes crashes through child
processes).

What is **not expressible** in this model and therefore not proved: freedom from *data races* (the Go memory model) and
the behaviour of the *real scheduler and kernel* (file reads, files vanishing while read). Those parts are supported
only by the correspondence runs: child-process crash observation, goroutine-count accounting, schedule perturbation
through `hash.VerifYield`, GOMAXPROCS ∈ {1,2,4,16}, restricted CPU affinity, and `-race` builds in the thorough tier. -/
namespace Spok.Props.C18
open Spok.Hash Spok.HashPool Spok.Judge.Hash

variable {ρ : Type}

/-- no deadlock: as long as main has not left its receive loop some goroutine can move -/
theorem pool_progress {ncpu : Nat} (hcpu : 0 < ncpu) {jobs : List (Option ρ)} {s : St ρ}
    (hr : Reachable ncpu jobs s) (hf : ¬ final s) : ∃ s', Step s s' :=
  progress_of_inv (inv_of_reachable hcpu hr) (fun h => hf h.1)

/-- no leak: the *only* reachable states without a successor are those where every goroutine (main, feeder, waiter,
    every worker) has returned — nobody stays blocked on a channel for ever -/
theorem pool_no_leak {ncpu : Nat} (hcpu : 0 < ncpu) {jobs : List (Option ρ)} {s : St ρ}
    (hr : Reachable ncpu jobs s) (hf : ¬ allReturned s) : ∃ s', Step s s' :=
  progress_of_inv (inv_of_reachable hcpu hr) hf

/-- every step strictly decreases the measure: no schedule is infinite -/
theorem pool_terminates {s s' : St ρ} (st : Step s s') : measure s' < measure s :=
  measure_decreases st

/-- every schedule of a call on `n` paths has at most `4n + min(ncpu, n) + 3` steps -/
theorem pool_schedule_bound (ncpu : Nat) (jobs : List (Option ρ)) {k : Nat} {s : St ρ}
    (h : Steps k (init ncpu jobs) s) : k ≤ 4 * jobs.length + nWorkers ncpu jobs.length + 3 := by
  have := steps_bound h
  rw [measure_init] at this
  omega

/-- when main leaves the loop all workers have returned, `results` is closed, every path was sent, and the received
    results are, as a multiset, exactly the expected ones — the same for every schedule and every worker count -/
theorem pool_result {ncpu : Nat} (hcpu : 0 < ncpu) {jobs : List (Option ρ)} {s : St ρ}
    (hr : Reachable ncpu jobs s) (hf : final s) :
    allWorkersDone s ∧ s.resultsClosed = true ∧ s.todo = [] ∧ s.acc.Perm (expected jobs) :=
  result_of_inv (inv_of_reachable hcpu hr) hf

/-- from every reachable state some schedule leads to a state where all goroutines have returned (with
    `pool_terminates`: every maximal schedule does); in particular final states exist for every input -/
theorem pool_can_finish {ncpu : Nat} (hcpu : 0 < ncpu) {jobs : List (Option ρ)} :
    ∀ {s : St ρ}, Reachable ncpu jobs s → ∃ s', Reachable ncpu jobs s' ∧ allReturned s' := by
  suffices h : ∀ n (s : St ρ), measure s = n → Reachable ncpu jobs s → ∃ s', Reachable ncpu jobs s' ∧ allReturned s' by
    intro s hr; exact h _ s rfl hr
  intro n
  induction n using Nat.strongRecOn with
  | _ n ih =>
    intro s hm hr
    by_cases hf : allReturned s
    · exact ⟨s, hr, hf⟩
    · obtain ⟨s', st⟩ := pool_no_leak hcpu hr hf
      exact ih (measure s') (hm ▸ measure_decreases st) s' rfl (.step hr st)

/-- an unreadable member makes the call an error — never a digest (the function) -/
theorem unreadable_is_error (sha : Bytes → Bytes) {files : List (Path × Entry)} {p : Path}
    (h : (p, Entry.unreadable) ∈ files) : digest sha files = .error .unreadable :=
  digest_error_of_unreadable sha h

/-- … and so it is for every schedule and worker count of the pool -/
theorem pool_unreadable_is_error (sha : Bytes → Bytes) {ncpu : Nat} (hcpu : 0 < ncpu) {files : List (Path × Entry)}
    {p : Path} (h : (p, Entry.unreadable) ∈ files) {s : St Res}
    (hr : Reachable ncpu (files.map (jobResult sha)) s) (hf : final s) :
    finish sha s.acc = .error .unreadable := by
  rw [finish_of_final sha hcpu files hr hf]
  exact unreadable_is_error sha h

/-- a list without unreadable members yields a digest, never an error (for every schedule: `C04_schedule_independent`) -/
theorem readable_is_digest (sha : Bytes → Bytes) {files : List (Path × Entry)}
    (h : ∀ pe ∈ files, pe.2 ≠ .unreadable) : ∃ d, digest sha files = .ok d :=
  digest_ok_of_readable sha h

/-- the judge accepts the observation `modelRun` makes of the function `digest`, for every group of lists: a digest or an
    error, and an error whenever a member cannot be opened or read.  The judge's other two clauses — one outcome over all
    repetitions, no goroutine left behind — hold of `modelRun` by construction (`outs` a singleton, `leak := 0`); that the
    pool has one outcome and leaves nothing behind is `C04_schedule_independent` and `pool_no_leak`, not this theorem. -/
theorem C18_judge_accepts_model (sha : Bytes → Bytes) (vs : List (Rel × Obs)) :
    c18 (vs.map fun v => modelRun sha v.1 v.2) false = true := by
  apply List.all_eq_true.mpr
  intro r hr
  obtain ⟨v, _, rfl⟩ := List.mem_map.mp hr
  have hret : ([outOf (digest sha (filesOf v.2))]).all Out.returned = true := by
    cases digest sha (filesOf v.2) <;> simp [outOf, Out.returned]
  cases hu : (v.2.map (·.1)).any Kind.unreadable with
  | false => simp [modelRun, hu, hret]
  | true =>
    obtain ⟨p, hp⟩ := unreadable_mem hu
    simp [modelRun, hu, digest_error_of_unreadable sha hp, outOf, Out.returned]

/-! ## non-vacuity, and why the hypothesis `0 < ncpu` is there -/

/-- reachable, not yet final states exist (pool_progress / pool_no_leak are not vacuous): the initial state -/
example : Reachable 2 [some 7, none, some 8] (init 2 [some 7, none, some 8]) ∧ ¬ final (init 2 [some 7, none, some 8]) :=
  ⟨.init, by simp [final, init]⟩
/-- steps exist (pool_terminates): the first send of that call, to the second worker, of a job that yields a result -/
example : Step (init 2 [some 7, none, some 8])
    { (init 2 [some 7, none, some 8]) with todo := [none, some 8], workers := [.idle, .holding 7] } :=
  .send _ (some 7) [none, some 8] [.idle] [] rfl rfl
/-- schedules exist (pool_schedule_bound): the three steps of the empty call in the order close-results, main-exit,
    close-jobs — main returns before the feeder has closed `jobs`, and the feeder still returns afterwards -/
example : Steps 3 (init 4 ([] : List (Option Nat)))
    { (init 4 []) with resultsClosed := true, mainDone := true, jobsClosed := true } :=
  .cons (.closeResults _ (by simp [init, nWorkers]) rfl) (.cons (.mainExit _ rfl rfl) (.cons (.closeJobs _ rfl rfl) (.refl _)))
/-- final reachable states exist for every input and every `ncpu ≥ 1` (pool_result, pool_unreadable_is_error) -/
example (ncpu : Nat) (hcpu : 0 < ncpu) (jobs : List (Option ρ)) : ∃ s, Reachable ncpu jobs s ∧ final s := by
  obtain ⟨s, hr, hf⟩ := pool_can_finish hcpu (Reachable.init (ncpu := ncpu) (jobs := jobs))
  exact ⟨s, hr, hf.1⟩
/-- lists with an unreadable member, and lists without, exist -/
example : (([2] : Path), Entry.unreadable) ∈ [(([1] : Path), Entry.regular []), ([2], .unreadable), ([3], .dir)] := by decide
example : ∀ pe ∈ [(([1] : Path), Entry.regular []), ([3], .dir)], pe.2 ≠ Entry.unreadable := by decide
/-- `0 < ncpu` (i.e. at least one worker for a non-empty list) cannot be dropped: with no worker the state after
    close-results and main-exit is reachable, main is gone, and the feeder is blocked for ever on its first send —
    a leaked goroutine. This is what an off-by-one in `min(NumCPU, len(files))` would cause. -/
example : ∃ s : St Nat, Reachable 0 [some 1] s ∧ final s ∧ ¬ allReturned s ∧ ¬ ∃ s', Step s s' := by
  refine ⟨{ (init 0 [some 1]) with resultsClosed := true, mainDone := true },
    .step (.step .init (.closeResults _ (by simp [init, nWorkers]) rfl)) (.mainExit _ rfl rfl), rfl, ?_, ?_⟩
  · intro h; exact absurd h.2.1 (by simp [init])
  · rintro ⟨s', st⟩
    cases st with
    | send j rest l₁ l₂ htd hw => simp [init, nWorkers] at hw
    | closeJobs htd hjc => simp [init] at htd
    | exit l₁ l₂ hjc hw => simp [init] at hjc
    | recv r l₁ l₂ hw hmd => simp at hmd
    | closeResults hall hrc => simp at hrc
    | mainExit hrc hmd => simp at hmd

end Spok.Props.C18
