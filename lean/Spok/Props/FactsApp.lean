import Spok.Generated.Facts
import Spok.App
/-! # Expectations over the regenerated facts (`Generated/Facts.lean`) — the dispatch of `App.Run` (C19, C20)

`Spok.App.action` / `prepare` / `dispatch` transliterate `App.Run`: `--init` first, then the `--quiet --debug` clash,
then setup / read / parse / load, then a `switch` in which the FIRST true flag wins.  The order of those tests is
extracted from the AST of cli/app/app.go on every run; a re-ordered `switch`, a new flag or a test moved in front of
another stops these from checking. -/
namespace Spok.Props.FactsApp
open Spok Spok.App Spok.Generated

/-- the tests before the `switch` and the preparation steps are in the order the model takes them -/
theorem run_prefix_matches_source :
    Facts.runIfs = ["Init", "Quiet", "Debug", "JSON"] ∧
    Facts.runPrepare = ["a.initialise", "a.setup", "os.ReadFile", "parser.New", "file.New"] := ⟨rfl, rfl⟩

/-- the `switch`: `--fmt`, `--vars`, `--clean`, `--show`, in that order -/
theorem run_switch_matches_source : Facts.runSwitch = ["Fmt", "Variables", "Clean", "Show"] := rfl

/-- … which is the priority of the model's `dispatch` -/
theorem dispatch_priority (o : Options) (args : List String) (w : World) :
    (o.fmt = true → dispatch o args w = .fmt) ∧
    (o.fmt = false → o.vars = true → dispatch o args w = .vars) ∧
    (o.fmt = false → o.vars = false → o.clean = true → dispatch o args w = (if w.hasClean then .cleanTask else .clean)) ∧
    (o.fmt = false → o.vars = false → o.clean = false → o.show = true → dispatch o args w = .show) := by
  refine ⟨?_, ?_, ?_, ?_⟩ <;> intros <;> simp_all [dispatch]

/-- `--init` is decided before anything else is looked at, the flag clash before the spokfile is -/
theorem action_prefix (o : Options) (args : List String) (w : World) :
    (o.init = true → action o args w = (if w.cwdSpokfile then .error .initExists else .initialise)) ∧
    (o.init = false → o.quiet = true → o.debug = true → action o args w = .error .quietDebug) := by
  refine ⟨?_, ?_⟩ <;> intros <;> simp_all [action]

end Spok.Props.FactsApp
