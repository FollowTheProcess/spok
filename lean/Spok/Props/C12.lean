import Spok.Lemmas.PathClean
import Spok.Judge.Env
/-! # Property C12 — `--clean` removes exactly the declared outputs and the cache, never the project

Statements are about the model `Spok.Clean` (`handleClean`, `runClean`) of `cli/app/app.go`; the tie to the
real binary is the correspondence run of `bin/check C12` (snapshot of a sandbox before / after `spok --clean`).

Vocabulary: `Designated sf cwd d` — `d` is a path designated by a declared output (literal joined with the
spokfile's directory, value of a named variable, a file the walk reported for an output glob — all made
absolute the way `filepath.Abs` does, and then taken to where they REALLY are: `sf.phys`, the resolution of the
symbolic links in the directory part, which is what the guard `containsSpokfile` compares (D14)
and what the operating system does with the argument of `os.RemoveAll`; `PhysOk sf` — that resolution returns clean
absolute paths, nothing else is assumed about it) or the cache directory; `pathOf d <+: e.1` — the entry `e` is `d` or lies
below it; `protectedPath sf p` — `p` is the spokfile, its directory or an ancestor. -/
namespace Spok.Props.C12
open Spok.Clean Spok.Judge.Env

/-! ## exactness -/

/-- **C12_exact.** Without a user-defined `clean` task, a successful `--clean` leaves exactly the entries of the
    old tree that are neither a designated path nor below one (same order, same kind, same content), and
    the arguments of spok's `os.RemoveAll` calls are exactly the designated paths. -/
theorem C12_exact (sf : SpokFile) (cwd : Str) (fs : FS) (run : FS → FS × Bool)
    (hno : sf.hasTask cleanName = false) (hok : (handleClean sf cwd fs run).err = none) :
    (handleClean sf cwd fs run).fs = expectedAfter fs (designatedList sf cwd) ∧
    (handleClean sf cwd fs run).removed = designatedList sf cwd := by
  rw [handleClean_of_no_task cwd fs run hno] at hok ⊢
  exact (runClean_ok hok).2

/-- the same as a statement about membership: `fs' = fs \ ⋃ {subtree d | d designated (incl. the cache dir)}` -/
theorem C12_exact_mem (sf : SpokFile) (cwd : Str) (fs : FS) (run : FS → FS × Bool)
    (hno : sf.hasTask cleanName = false) (hok : (handleClean sf cwd fs run).err = none) (e : Path × Kind) :
    e ∈ (handleClean sf cwd fs run).fs ↔ e ∈ fs ∧ ¬ ∃ d, Designated sf cwd d ∧ pathOf d <+: e.1 := by
  rw [(C12_exact sf cwd fs run hno hok).1, mem_expectedAfter]
  constructor
  · rintro ⟨h1, h2⟩
    exact ⟨h1, fun ⟨d, hd, hp⟩ => h2 ⟨d, mem_designatedList.2 hd, hp⟩⟩
  · rintro ⟨h1, h2⟩
    exact ⟨h1, fun ⟨d, hd, hp⟩ => h2 ⟨d, mem_designatedList.1 hd, hp⟩⟩

/-- nothing is added or modified, ever: the new tree is a sublist of the old one
    (an entry carries its kind and content) — with or without error, for spok's own cleaning -/
theorem C12_nothing_else (sf : SpokFile) (cwd : Str) (fs : FS) : (runClean sf cwd fs).fs.Sublist fs := by
  rcases runClean_cases sf cwd fs with ⟨_, e, h⟩ | ⟨_, t, h⟩ | ⟨_, _, h⟩ <;> rw [h]
  · exact .refl _
  · exact .refl _
  · exact List.filter_sublist

/-- **exactness is not vacuous**: whenever every named output is defined and no designated path is
    protected the clean succeeds (a designated path below a regular file is simply absent: D13) — and then `C12_exact` applies. -/
theorem C12_exact_succeeds (sf : SpokFile) (cwd : Str) (fs : FS)
    (hdef : ∀ t ∈ sf.tasks, ∀ n ∈ t.namedOutputs, ∃ v, lookupVar sf.vars n = some v)
    (hsafe : ∀ d ∈ designatedList sf cwd, containsSpokfile d sf.path = false) :
    (runClean sf cwd fs).err = none := by
  rcases runClean_cases sf cwd fs with ⟨⟨t, ht, n, hn, h⟩, _⟩ | ⟨⟨d, hd, h⟩, _⟩ | ⟨_, _, h⟩
  · obtain ⟨v, hv⟩ := hdef t ht n hn; rw [h] at hv; cases hv
  · rw [hsafe d hd] at h; cases h
  · rw [h]

/-! ## the project is never removed -/

/-- `protectedPath` says what it should: for a spokfile in the (clean, absolute) directory `dir`, a path is
    protected iff it is `dir/spokfile`, `dir` itself, or a directory above `dir`. -/
theorem protectedPath_iff (sf : SpokFile) (hd : CleanAbs sf.dir) (p : Path) :
    protectedPath sf p = true ↔ p = pathOf sf.dir ++ [spokfileName] ∨ p <+: pathOf sf.dir := by
  have hn : Proper spokfileName := ⟨by decide, by decide, by decide, by decide⟩
  unfold protectedPath SpokFile.path
  rw [within_iff, pathOf_join_name hd hn]
  exact List.prefix_concat_iff

/-- **C12_protected.** For *any* outputs, variables, globs and working directory (absolute paths for the
    spokfile's directory and the cwd): (1) every entry that is the spokfile, its directory or an ancestor
    survives spok's own cleaning, and (2) if some designated path is one of those, the result is an error and
    the tree is untouched (`fs' = fs`, no `RemoveAll` issued). -/
theorem C12_protected (sf : SpokFile) (cwd : Str) (fs : FS) (hd : isAbs sf.dir = true) (hc : isAbs cwd = true)
    (hph : PhysOk sf) :
    (∀ e ∈ fs, protectedPath sf e.1 = true → e ∈ (runClean sf cwd fs).fs) ∧
    ((∃ d, Designated sf cwd d ∧ protectedPath sf (pathOf d) = true) →
      (runClean sf cwd fs).err ≠ none ∧ (runClean sf cwd fs).fs = fs ∧ (runClean sf cwd fs).removed = []) := by
  -- a designated path above a protected entry is itself protected, and the guard lets no such path through
  have hguard : (∀ d ∈ designatedList sf cwd, containsSpokfile d sf.path = false) →
      ∀ d ∈ designatedList sf cwd, protectedPath sf (pathOf d) = false :=
    fun hsafe d hdm => containsSpokfile_designated hd hc hph hdm ▸ hsafe d hdm
  rcases runClean_cases sf cwd fs with ⟨_, e, h⟩ | ⟨_, t, h⟩ | ⟨_, hsafe, h⟩ <;> rw [h]
  · exact ⟨fun _ he _ => he, fun _ => ⟨nofun, rfl, rfl⟩⟩
  · exact ⟨fun _ he _ => he, fun _ => ⟨nofun, rfl, rfl⟩⟩
  · constructor
    · intro e he hp
      refine mem_expectedAfter.2 ⟨he, ?_⟩
      rintro ⟨d, hdm, hpre⟩
      have h1 := hguard hsafe d hdm
      rw [protectedPath_of_prefix hpre hp] at h1
      cases h1
    · rintro ⟨d, hdes, hp⟩
      have h1 := hguard hsafe d (mem_designatedList.2 hdes)
      rw [hp] at h1
      cases h1

/-- `C12_protected` for the worlds the check runs in: the symbolic links of the tree given as a table (path ↦ target), `phys`
    their resolution `physOf` — no hypothesis about links is left -/
theorem C12_protected_links (dir : Str) (vars : List (Str × Str)) (tasks : List Task) (links : List (Str × Str))
    (cwd : Str) (fs : FS) (hd : isAbs dir = true) (hc : isAbs cwd = true) :
    let sf : SpokFile := ⟨dir, vars, tasks, physOf links⟩
    (∀ e ∈ fs, protectedPath sf e.1 = true → e ∈ (runClean sf cwd fs).fs) ∧
    ((∃ d, Designated sf cwd d ∧ protectedPath sf (pathOf d) = true) →
      (runClean sf cwd fs).err ≠ none ∧ (runClean sf cwd fs).fs = fs ∧ (runClean sf cwd fs).removed = []) :=
  C12_protected ⟨dir, vars, tasks, physOf links⟩ cwd fs hd hc (physOf_cleanAbs links)

/-- (1) of `C12_protected` for `--clean` as a whole when there is no user task -/
theorem C12_protected_handle (sf : SpokFile) (cwd : Str) (fs : FS) (run : FS → FS × Bool)
    (hno : sf.hasTask cleanName = false) (hd : isAbs sf.dir = true) (hc : isAbs cwd = true) (hph : PhysOk sf) :
    ∀ e ∈ fs, protectedPath sf e.1 = true → e ∈ (handleClean sf cwd fs run).fs := by
  rw [handleClean_of_no_task cwd fs run hno]
  exact (C12_protected sf cwd fs hd hc hph).1

/-! ## a user-defined clean task -/

/-- **C12_user_clean.** With a task named `clean`, spok issues no removal of its own: the tree afterwards is
    whatever running that task made of it, and the outcome is the task's. -/
theorem C12_user_clean (sf : SpokFile) (cwd : Str) (fs : FS) (run : FS → FS × Bool)
    (h : sf.hasTask cleanName = true) :
    (handleClean sf cwd fs run).removed = [] ∧
    (handleClean sf cwd fs run).fs = (run fs).1 ∧
    ((handleClean sf cwd fs run).err = none ↔ (run fs).2 = true) := by
  rw [handleClean_of_task cwd fs run h]
  exact ⟨rfl, rfl, by cases (run fs).2 <;> simp⟩

/-- a user-defined `clean` task that FAILS: the invocation fails and the tree is what the task's run left — spok's own
    clean is not run instead, nothing is removed by spok -/
theorem C12_user_clean_fails (sf : SpokFile) (cwd : Str) (fs : FS) (run : FS → FS × Bool)
    (hclean : sf.hasTask cleanName = true) (hfail : (run fs).2 = false) :
    (handleClean sf cwd fs run).err = some .taskFailed ∧ (handleClean sf cwd fs run).fs = (run fs).1 := by
  simp [handleClean_of_task cwd fs run hclean, hfail]

theorem C12_judge_accepts_model_failing (sf : SpokFile) (cwd : Str) (fs : FS) (run : FS → FS × Bool)
    (hclean : sf.hasTask cleanName = true)
    (hrun : (run fs).2 = false ∧ (∀ e ∈ fs, e ∈ (run fs).1) ∧ ∀ e ∈ (run fs).1, e ∈ fs ∨ e.1 = pathOf sf.cacheDir) :
    c12failing sf (obsOfModel sf cwd fs run true) = true := by
  obtain ⟨h1, h2⟩ := C12_user_clean_fails sf cwd fs run hclean hrun.1
  simp only [c12failing, obsOfModel, h1, h2, Bool.and_eq_true, List.all_eq_true, Bool.or_eq_true, decide_eq_true_eq,
    List.contains_iff_mem]
  refine ⟨⟨⟨trivial, by simp⟩, fun e he => hrun.2.1 e he⟩, fun e he => ?_⟩
  rcases hrun.2.2 e he with h | h
  · exact .inl h
  · exact .inr h

/-! ## the judge accepts the model -/

/-- Whatever the model does is accepted by the executable judge `c12` (which the check run applies to what
    the *real binary* did) — under the hypotheses the judged part of the case space satisfies: absolute
    directories and a clean task that only prints (the run keeps every
    entry and adds at most the cache directory). -/
theorem C12_judge_accepts_model (sf : SpokFile) (cwd : Str) (fs : FS) (run : FS → FS × Bool)
    (hd : isAbs sf.dir = true) (hc : isAbs cwd = true) (hph : PhysOk sf)
    (hrun : (run fs).2 = true ∧ (∀ e ∈ fs, e ∈ (run fs).1) ∧ ∀ e ∈ (run fs).1, e ∈ fs ∨ e.1 = pathOf sf.cacheDir) :
    c12 sf cwd (obsOfModel sf cwd fs run (sf.hasTask cleanName)) ≠ some false := by
  unfold c12
  by_cases hclean : sf.hasTask cleanName = true
  · rw [if_pos hclean]
    simp only [obsOfModel, handleClean_of_task cwd fs run hclean, hrun.1, hclean, if_true, decide_true, Bool.and_true,
      Bool.true_and, ne_eq, Option.some.injEq, Bool.and_eq_false_iff, not_or, Bool.not_eq_false, List.all_eq_true,
      List.contains_iff_mem, Bool.or_eq_true, decide_eq_true_eq]
    exact ⟨hrun.2.1, hrun.2.2⟩
  rw [if_neg hclean]
  by_cases hdefd : definedOutputs sf = true
  case neg => rw [if_pos (by simpa using hdefd)]; nofun
  rw [if_neg (by simp [hdefd])]
  simp only [obsOfModel, handleClean_of_no_task cwd fs run (by simpa using hclean)]
  -- the judge's three cases are the three outcomes of `runClean`, its test on the designated paths being the guard's
  rcases runClean_cases sf cwd fs with ⟨⟨t, ht, n, hn, h⟩, _⟩ | ⟨⟨d, hdm, hcs⟩, t, h⟩ | ⟨_, hsafe, h⟩
  · have : (lookupVar sf.vars n).isSome = true := by
      simp only [definedOutputs, List.all_eq_true] at hdefd
      exact hdefd t ht n hn
    rw [h] at this; cases this
  · rw [h, if_pos (List.any_eq_true.2 ⟨d, hdm, containsSpokfile_designated hd hc hph hdm ▸ hcs⟩)]
    simp
  · rw [h, if_neg]
    · simp
    · intro hany
      obtain ⟨d, hdm, hp⟩ := List.any_eq_true.1 hany
      rw [← containsSpokfile_designated hd hc hph hdm, hsafe d hdm] at hp
      cases hp

/-! ## non-vacuity: concrete projects (outputs `""`, `"."`, `".."`, an empty variable, an ordinary file) -/

section Examples

private def proj : Str := ['/', 'h', '/', 'p']
private def fileA : Str := ['a', '.', 'o']

private def tree : FS :=
  [ ([['h']], .dir), ([['h'], ['p']], .dir), ([['h'], ['p'], spokfileName], .file ['1']),
    ([['h'], ['p'], ['a', '.', 'o']], .file ['2']), ([['h'], ['p'], ['k']], .file ['3']),
    ([['h'], ['p'], cacheDirName], .dir), ([['h'], ['p'], cacheDirName, ['c']], .file ['4']),
    ([['h'], ['q']], .file ['5']) ]

private def sfWith (outs : List Str) (named : List Str) (vars : List (Str × Str)) : SpokFile :=
  ⟨proj, vars, [⟨['t'], outs, named, []⟩], id⟩

/-- an ordinary output: the file, the cache directory and its content go, everything else stays -/
example : (runClean (sfWith [fileA] [] []) proj tree).err = none ∧
    (runClean (sfWith [fileA] [] []) proj tree).fs =
      [ ([['h']], .dir), ([['h'], ['p']], .dir), ([['h'], ['p'], spokfileName], .file ['1']),
        ([['h'], ['p'], ['k']], .file ['3']), ([['h'], ['q']], .file ['5']) ] := by decide +kernel

/-- the output `""` designates the project directory: refused, tree untouched -/
example : (runClean (sfWith [[]] [] []) proj tree).err = some (.refused proj) ∧
    (runClean (sfWith [[]] [] []) proj tree).fs = tree := by decide +kernel

/-- `"."` -/
example : (runClean (sfWith [['.']] [] []) proj tree).err = some (.refused proj) := by decide +kernel

/-- `".."` designates the parent of the project -/
example : (runClean (sfWith [['.', '.']] [] []) proj tree).err = some (.refused ['/', 'h']) ∧
    (runClean (sfWith [['.', '.']] [] []) proj tree).fs = tree := by decide +kernel

/-- a named output whose variable is the empty string resolves to the working directory -/
example : (runClean (sfWith [] [['E']] [(['E'], [])]) proj tree).err = some (.refused proj) := by decide +kernel

/-- the hypotheses of `C12_protected` (2) are met by that project -/
example : ∃ d, Designated (sfWith [[]] [] []) proj d ∧ protectedPath (sfWith [[]] [] []) (pathOf d) = true :=
  ⟨_, .file (t := ⟨['t'], [[]], [], []⟩) (o := []) (by simp [sfWith]) (by simp), by decide⟩

/-- a glob output: the files the walk reported are removed -/
example : (runClean ⟨proj, [], [⟨['t'], [], [], [⟨['*', '.', 'o'], [fileA]⟩]⟩], id⟩ proj tree).fs =
      [ ([['h']], .dir), ([['h'], ['p']], .dir), ([['h'], ['p'], spokfileName], .file ['1']),
        ([['h'], ['p'], ['k']], .file ['3']), ([['h'], ['q']], .file ['5']) ] := by decide +kernel

/-- with a task named clean nothing is removed by spok, whatever the outputs say -/
example : (handleClean ⟨proj, [], [⟨cleanName, [[]], [], []⟩], id⟩ proj tree (fun fs => (fs, true))).fs = tree ∧
    (handleClean ⟨proj, [], [⟨cleanName, [[]], [], []⟩], id⟩ proj tree (fun fs => (fs, true))).removed = [] := by decide +kernel

/-- a world with a symbolic link `/h/p/up -> ..`: the path `/h/p/up/p` really is `/h/p` -/
private def physUp (s : Str) : Str := if s = ['/', 'h', '/', 'p', '/', 'u', 'p', '/', 'p'] then proj else s

/-- the output `"up/p"` leads through that link back to the project directory: refused, tree untouched (D14) -/
example : (runClean ⟨proj, [], [⟨['t'], [['u', 'p', '/', 'p']], [], []⟩], physUp⟩ proj tree).err = some (.refused proj) ∧
    (runClean ⟨proj, [], [⟨['t'], [['u', 'p', '/', 'p']], [], []⟩], physUp⟩ proj tree).fs = tree := by decide +kernel

/-- … while the link itself as an output is only a link (an entry of its own: nothing else goes) -/
example : (runClean ⟨proj, [], [⟨['t'], [['u', 'p']], [], []⟩], physUp⟩ proj tree).err = none := by decide +kernel

/-- the assumption on `phys` is met by the identity (a tree without links) -/
example : PhysOk (sfWith [fileA] [] []) := fun _ h => h

end Examples

/-! ## `--clean` under repetition -/

/-- removing the subtrees of `ds` and then those of any sub-collection `ds'` is removing the subtrees of `ds` -/
theorem expectedAfter_again (fs : FS) (ds ds' : List Str) (h : ∀ d ∈ ds', d ∈ ds) :
    expectedAfter (expectedAfter fs ds) ds' = expectedAfter fs ds := by
  unfold expectedAfter
  rw [List.filter_filter]
  apply List.filter_congr
  intro e _
  cases hds : ds.any (fun d => within (pathOf d) e.1) with
  | true => simp
  | false =>
    have : ds'.any (fun d => within (pathOf d) e.1) = false := by
      rw [List.any_eq_false] at hds ⊢
      intro d hd; exact hds d (h d hd)
    simp [this]

/-- **A second `--clean` removes nothing.**  After a successful `--clean`, another one — of the same spokfile re-read
    (`sf'`: its globs re-expanded over the cleaned tree, so they hit no more than before), from any directory — that
    designates nothing new leaves the tree exactly as the first left it: cleaning is idempotent and never "eats further"
    into the project on repetition. -/
theorem C12_second_clean_noop (sf sf' : SpokFile) (cwd cwd' : Str) (fs : FS) (run run' : FS → FS × Bool)
    (hno : sf.hasTask cleanName = false) (hno' : sf'.hasTask cleanName = false)
    (hok : (handleClean sf cwd fs run).err = none)
    (hok' : (handleClean sf' cwd' (handleClean sf cwd fs run).fs run').err = none)
    (hsub : ∀ d ∈ designatedList sf' cwd', d ∈ designatedList sf cwd) :
    (handleClean sf' cwd' (handleClean sf cwd fs run).fs run').fs = (handleClean sf cwd fs run).fs := by
  rw [(C12_exact sf' cwd' _ run' hno' hok').1, (C12_exact sf cwd fs run hno hok).1]
  exact expectedAfter_again fs _ _ hsub

/-- the special case of the very same spokfile value and directory -/
theorem C12_idempotent (sf : SpokFile) (cwd : Str) (fs : FS) (run : FS → FS × Bool)
    (hno : sf.hasTask cleanName = false) (hok : (handleClean sf cwd fs run).err = none)
    (hok' : (handleClean sf cwd (handleClean sf cwd fs run).fs run).err = none) :
    (handleClean sf cwd (handleClean sf cwd fs run).fs run).fs = (handleClean sf cwd fs run).fs :=
  C12_second_clean_noop sf sf cwd cwd fs run run hno hno hok hok' (fun _ h => h)

/-- non-vacuity of `C12_idempotent`: on the example project with the output `a.o` both cleans succeed (so every hypothesis
    holds), the first removes something, the second nothing -/
example : (handleClean (sfWith [fileA] [] []) proj tree (fun fs => (fs, true))).err = none ∧
    (handleClean (sfWith [fileA] [] []) proj (handleClean (sfWith [fileA] [] []) proj tree (fun fs => (fs, true))).fs
      (fun fs => (fs, true))).err = none ∧
    (handleClean (sfWith [fileA] [] []) proj tree (fun fs => (fs, true))).fs ≠ tree := by decide +kernel

end Spok.Props.C12
