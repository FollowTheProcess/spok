import Spok.Generated.Facts
/-! # Expectations over the regenerated facts (`Generated/Facts.lean`) — what `file.Find` is made of (C17)

The model `Spok/Find.lean` stands for particular library calls: `os.ReadDir` per directory on the way up, `filepath.Dir` to
climb, and `filepath.Rel` for "above".  Which calls of imported packages the Go source makes (error construction left out)
is extracted from its AST on every run; `Lstat` for `ReadDir`, or another test for "above", stops this from checking. -/
namespace Spok.Props.FactsFind
open Spok Spok.Generated

/-- `file.Find`: one `os.ReadDir` per directory, `filepath.Dir` to climb; "above" is `filepath.Rel` + a `..` prefix test -/
theorem find_made_of :
    Facts.findCalls = ["os.ReadDir", "filepath.Abs", "filepath.Join", "filepath.Dir"] ∧
    Facts.isAboveCalls = ["filepath.Rel", "strings.HasPrefix"] := ⟨rfl, rfl⟩

end Spok.Props.FactsFind
