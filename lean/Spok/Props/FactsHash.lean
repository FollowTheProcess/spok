import Spok.Generated.Facts
/-! # Expectations over the regenerated facts (`Generated/Facts.lean`) — what the hasher is made of (C04, C18)

`Spok/Hash.lean` stands for particular library calls: SHA-256 over the content and over the path, a stable sort on
bytewise comparison, hex encoding.  Which calls of imported packages hash/hash.go makes (error construction left out) is
extracted from its AST on every run; another hash function or another sort stops this from checking. -/
namespace Spok.Props.FactsHash
open Spok Spok.Generated

/-- hash/hash.go: SHA-256 (streamed over the content, one-shot elsewhere), `bytes.Compare` under `sort.Stable`, the items
    joined, the digest in hex; one worker per CPU -/
theorem hasher_made_of :
    Facts.hashPkgCalls = ["bytes.Compare", "bytes.Join", "hex.EncodeToString", "io.Copy", "os.Open", "runtime.NumCPU",
      "sha256.New", "sha256.Sum256", "sort.Stable"] := rfl

end Spok.Props.FactsHash
