import Spok.Lemmas.LexGraph
import Spok.Lemmas.LexTerm
import Spok.Lemmas.CharClass
/-! # Expectations over the regenerated facts (`Generated/Facts.lean`, `Generated/Unicode.lean`)

These are proof obligations that tie constants of the Go source and tables of the Go toolchain to the
model: when a constant changes in a way the proofs depend on, one of these stops checking. -/
namespace Spok.Props.Facts
open Spok Spok.Generated

/-- the model's ASCII fast path for letters agrees with Go's Letter table -/
theorem ascii_letter_table : ∀ c, c < 128 → inTable Unicode.letter c = asciiLetter c := by
  intro c h
  rw [inTable_filter (fun e => e.1 < 128) c (by simp; omega),
    show Unicode.letter.filter (fun e => e.1 < 128) = [(65, 90, 1), (97, 122, 1)] by decide +kernel]
  simp [inTable, asciiLetter, Nat.mod_one]

/-- the model's ASCII fast path for punctuation agrees with Go's Punct table -/
theorem ascii_punct_table : ∀ c, c < 128 → inTable Unicode.punct c = asciiPunct c := by
  intro c h
  rw [inTable_filter (fun e => e.1 < 128) c (by simp; omega), show Unicode.punct.filter (fun e => e.1 < 128) =
    [(33, 35, 1), (37, 42, 1), (44, 47, 1), (58, 59, 1), (63, 64, 1), (91, 93, 1), (95, 123, 28), (125, 161, 36)]
    by decide +kernel]
  revert c
  decide +kernel

/-- U+FFFD (what an invalid byte and a read at end of input decode to) is not a letter -/
theorem runeError_not_letter : isLetterCp 0xFFFD = false := isLetterCp_runeError

/-- `TT.name`, the model's `token.Type.String()`, gives the token types, in the order of their declaration, the
    names extracted from the Go source -/
theorem token_names : Facts.tokenNames = TT.all.map TT.name := rfl

/-- the string literals extracted from the `String()` methods of ast/ast.go are these; `stdLits`
    (`Syntax/Printer.lean`) was written from the same strings, and no statement compares the two -/
theorem printer_literals :
    Facts.litCommentString = ["", "# ", "\n", ""] ∧ Facts.litStringString = ["\"", "\""] ∧
    Facts.litAssignString = [" := ", "\n"] ∧
    Facts.litTaskString = ["task ", "(", ", ", ")", " -> ", "(", ", ", ")", " {\n", "    ", "\n", "}\n\n"] ∧
    Facts.litFunctionString = ["(", ", ", ")"] ∧ Facts.litTreeWrite = ["", "#\n"] := ⟨rfl, rfl, rfl, rfl, rfl, rfl⟩

/-- the model never takes a transition outside `nextTags` … -/
theorem lexer_model_graph (l : L) (t : Tag) : (stepTag l t).2 ∈ nextTags t := stepTag_next l t

/-- … and `nextTags` is, state function by state function, exactly the set of state functions the Go
    source of `lexXxx` returns (extracted from the AST of lexer/lexer.go on every run; `nil` and error
    returns are the ends of the scan on both sides): a new or removed transition in the Go lexer breaks this. -/
theorem lexer_graph_matches_source :
    Tag.live.all (fun t => goEdges Facts.lexReturns t == some (modelEdges t)) = true := by decide +kernel

/-- every state function of the Go lexer is modelled (nothing but `unexpectedToken`, which only reports an
    error, is left over) -/
theorem lexer_functions_all_modelled :
    (Facts.lexReturns.map (·.1)).filter (fun f => !(Tag.live.map Tag.goName).contains f) = ["unexpectedToken"] := by decide +kernel

end Spok.Props.Facts
