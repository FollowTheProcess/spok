import Spok.Lemmas.JsonReportScan
import Spok.Lemmas.JsonReportValue
import Spok.Lemmas.Utf8Enc
import Spok.App
/-! # C20 at the byte level of the `--json` report

`Props/C20.lean` speaks of the report as a JSON *value* (`jsonDoc`).  What the user's `jq` or CI script gets is bytes:
`fmt.Println(json.Marshal(results))`.  `Spok/Json/Report.lean` is that writer (`encReport`: compact form, declared
field order, `appendString` escaping, decimal status, `null` for a nil command list) and a reader for it; both rest on
the transliterated `encoding/json` scanner and string quoting of `Spok/Json`.  Here, for every list of results — any
number of tasks and commands, any bytes in names, command texts and outputs, any status:

* the bytes are ONE JSON document for `encoding/json`'s scanner, and no strict prefix of them is
  (`C20_report_is_one_document`, `C20_report_prefix_is_no_document`): a consumer never mistakes a cut-off report for a
  report, and nothing but blanks can follow it on stdout;
* read back, the document yields the same tasks in the same order with the same skipped flags and, per command, the
  same text, standard output, standard error and status — exactly when these are text (valid UTF-8), and with U+FFFD
  for every invalid byte otherwise, which is `json.Marshal`'s doing (`C20_report_reads_back`, `C20_report_exact_for_text`);
* hence two runs printing the same bytes had the same results (`C20_report_injective_for_text`), and everything a Lean
  `String` can hold is text (`C20_report_of_strings`).

The `cli` engine compares `encReport` with the real standard output byte for byte on every `--json` run (`CANON`). -/
namespace Spok.Props.C20Json
open Spok Spok.Json

/-- the report is one complete JSON document -/
theorem C20_report_is_one_document (rs : List BResult) : valid (encReport rs) = true := (doc_encReport rs).valid

/-- … followed by the newline of `fmt.Println` it still is (blanks may follow a top-level value) -/
theorem C20_report_line_is_one_document (rs : List BResult) : valid (encReport rs ++ [10]) = true := by
  unfold valid; rw [scan_append, (doc_encReport rs).1]; rfl

/-- no strict prefix of the report is a JSON document: a report cut short (a full disk, a closed pipe, a kill) is
    never taken for a report -/
theorem C20_report_prefix_is_no_document (rs : List BResult) (q : Bytes) (hq : q <+: encReport rs) (hne : q ≠ encReport rs) :
    valid q = false := (doc_encReport rs).2 q hq hne

/-- read back, the report is the results: same tasks, same order, same flags, same commands with text, outputs and
    status — invalid UTF-8 replaced by U+FFFD (what `json.Marshal` does to a Go string that is not text) -/
theorem C20_report_reads_back (rs : List BResult) : decReport (encReport rs) = some (rs.map BResult.san) :=
  decReport_encReport rs

/-- for text, the report is exact -/
theorem C20_report_exact_for_text (rs : List BResult) (h : ∀ r ∈ rs, r.text) : decReport (encReport rs) = some rs := by
  rw [decReport_encReport]
  have : ∀ r ∈ rs, BResult.san r = id r := fun r hr => BResult.san_text r (h r hr)
  rw [List.map_congr_left this]; simp

/-- two runs that print the same report had the same results -/
theorem C20_report_injective_for_text (rs rs' : List BResult) (h : ∀ r ∈ rs, r.text) (h' : ∀ r ∈ rs', r.text)
    (he : encReport rs = encReport rs') : rs = rs' := by
  have h1 := C20_report_exact_for_text rs h
  rw [he, C20_report_exact_for_text rs' h'] at h1
  exact (Option.some.inj h1).symm

/-- statuses are never confused: the decimal form reads back as the number (the heart of "exact exit status") -/
theorem C20_status_reads_back (n : Nat) (T : Bytes) : pNat (natDigits n ++ 125 :: T) = some (n, 125 :: T) :=
  pNat_digits n 125 T (by decide)

/-! ## from the `String`s of `Spok.App` -/

theorem char_isScalar (c : Char) : isScalar c.toNat := by
  have := c.valid
  unfold isScalar
  simp only [Char.toNat, UInt32.isValidChar, Nat.isValidChar] at *
  omega

theorem strBytes_text (s : String) : textOnly (strBytes s) :=
  (decodeAll_utf8 (s.toList.map Char.toNat) (by
    intro cp h
    obtain ⟨c, _, rfl⟩ := List.mem_map.mp h
    exact char_isScalar c)).2

theorem resultB_text (r : App.Result) : (resultB r).text := by
  refine ⟨strBytes_text r.task, ?_⟩
  intro c hc
  obtain ⟨c', _, rfl⟩ := List.mem_map.mp hc
  exact ⟨strBytes_text c'.cmd, strBytes_text c'.stdout, strBytes_text c'.stderr⟩

/-- the results of `Spok.App` (whose strings are `String`s, hence text) survive the bytes unchanged -/
theorem C20_report_of_strings (rs : List App.Result) :
    decReport (encReport (rs.map resultB)) = some (rs.map resultB) :=
  C20_report_exact_for_text _ (by
    intro r hr
    obtain ⟨r', _, rfl⟩ := List.mem_map.mp hr
    exact resultB_text r')

/-- the two levels of C20 are one: the bytes of the report are compact `json.Marshal` (`encJ`) of the document
    `jsonDoc rs` that `Props/C20.lean` reasons about -/
theorem C20_value_and_bytes_agree (rs : List App.Result) : encJ (App.jsonDoc rs) = encReport (rs.map resultB) :=
  encJ_jsonDoc rs

/-- … so reading the marshalled document of `Props/C20.lean` gives the results back -/
theorem C20_document_bytes_read_back (rs : List App.Result) : decReport (encJ (App.jsonDoc rs)) = some (rs.map resultB) := by
  rw [C20_value_and_bytes_agree]; exact C20_report_of_strings rs

/-! ## the writer on concrete runs: the very bytes the real binary prints (checked by the kernel) -/

def exCmd : BCmd := ⟨ascii "echo <hi> & \"bye\"", ascii "hi\n", [], 0⟩
def exRun : List BResult := [⟨ascii "gen", [exCmd, ⟨ascii "false", [], ascii "e\tr", 127⟩], false⟩, ⟨ascii "lint", [], true⟩]

example : encReport exRun =
    ascii ("[{\"task\":\"gen\",\"results\":[{\"cmd\":\"echo \\u003chi\\u003e \\u0026 \\\"bye\\\"\",\"stdout\":\"hi\\n\",\"stderr\":\"\",\"status\":0}," ++
         "{\"cmd\":\"false\",\"stdout\":\"\",\"stderr\":\"e\\tr\",\"status\":127}],\"skipped\":false}," ++
         "{\"task\":\"lint\",\"results\":null,\"skipped\":true}]") := by
  rw [ascii_append, ascii_append, ascii_ofList, ascii_ofList, ascii_ofList]; decide +kernel

example : decReport (encReport exRun) = some exRun := by decide +kernel

/-- an output that is not text: `printf '\377x\n'` — the report says `\ufffdx\n`, and U+FFFD is what a reader gets -/
example : encReport [⟨ascii "a", [⟨ascii "p", [0xFF, 120, 10], [], 0⟩], false⟩] =
    ascii "[{\"task\":\"a\",\"results\":[{\"cmd\":\"p\",\"stdout\":\"\\ufffdx\\n\",\"stderr\":\"\",\"status\":0}],\"skipped\":false}]" :=
  .trans (by decide +kernel) (ascii_ofList _).symm

example : decReport (encReport [⟨ascii "a", [⟨ascii "p", [0xFF, 120, 10], [], 0⟩], false⟩]) =
    some [⟨ascii "a", [⟨ascii "p", [0xEF, 0xBF, 0xBD, 120, 10], [], 0⟩], false⟩] := by decide +kernel

example : encReport [] = ascii "[]" := by decide +kernel

end Spok.Props.C20Json
