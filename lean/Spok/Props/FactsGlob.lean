import Spok.Generated.Facts
/-! # Expectations over the regenerated facts (`Generated/Facts.lean`) — what `task.New` and `expandGlob` are made of (C05)

The model `Spok/Glob.lean` stands for particular library calls: `strings.Contains(_, "*")` as THE test that makes a string
a glob, and `doublestar.GlobWalk` over `os.DirFS` with the hidden-entry filter `strings.HasPrefix(_, ".")`.  Which calls of
imported packages the Go source makes (error construction left out) and its string literals without blanks are extracted
from its AST on every run; another glob test, another walker or another filter stops these from checking. -/
namespace Spok.Props.FactsGlob
open Spok Spok.Generated

/-- `task.New`: a string is a glob iff it contains `*` (dependencies and outputs alike), anything else is a path joined
    with the spokfile's directory -/
theorem task_new_made_of :
    Facts.taskNewCalls = ["strings.Contains", "filepath.Join", "strings.Contains", "filepath.Join", "strings.TrimSpace"] ∧
    Facts.taskNewLits = ["*", "*"] := ⟨rfl, rfl⟩

/-- `expandGlob`: `doublestar.GlobWalk` over `os.DirFS(root)`, entries whose path starts with `.` filtered, matches made
    absolute -/
theorem expand_glob_made_of :
    Facts.expandGlobCalls = ["strings.HasPrefix", "filepath.Abs", "filepath.Join", "filepath.Join", "doublestar.GlobWalk", "os.DirFS"] ∧
    Facts.expandGlobLits = ["."] := ⟨rfl, rfl⟩

end Spok.Props.FactsGlob
