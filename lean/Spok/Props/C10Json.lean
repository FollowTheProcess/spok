import Spok.Lemmas.JsonLoad
import Spok.Json.Report
import Spok.Judge.Json
import Spok.Lemmas.ListFind
/-! # C10 at the byte level of `.spok/cache.json`

The run machine (`Spok/Run.lean`) treats every `Cache.Dump` as two micro-steps — truncate, write — and calls the file
in between `corrupt`: *whatever* a kill leaves of the new contents makes the next `cache.Load` fail.  That is a claim
about `encoding/json`, and here it is a theorem about the transliterated scanner and decoder (`Spok/Json/*.lean`,
compared with the real `cache.Dump` / `cache.Load` / `json.Valid` by the `json` engine on every run):

* every strict prefix of what `Dump` writes is rejected by the scanner, so `Load` returns a `*json.SyntaxError`
  (`C10_torn_write_is_syntax_error`) — for every map, every key and value, every cut;
* the whole file loads to exactly the map that was dumped (`C10_whole_write_loads`, `C10_whole_write_same_map`);
* hence the three-valued file state of the run machine is what the bytes denote (`C10_disk_class`). -/
namespace Spok.Props.C10Json
open Spok Spok.Json

/-- a kill part-way through the write of the cache file leaves a file that `cache.Load` refuses -/
theorem C10_torn_write_is_syntax_error (m : List KV) (q : Bytes) (hq : q <+: encodeMap m) (hne : q ≠ encodeMap m) :
    load q = .syntaxErr := by
  unfold load; rw [(doc_encodeMap m).2 q hq hne]; rfl

/-- in terms of byte counts: the first `n` bytes, `n` short of the whole -/
theorem C10_torn_write_take (m : List KV) (n : Nat) (h : n < (encodeMap m).length) : load ((encodeMap m).take n) = .syntaxErr :=
  C10_torn_write_is_syntax_error m _ (List.take_prefix n _) (by
    intro he
    have := congrArg List.length he
    simp only [List.length_take] at this
    omega)

/-- the completed write is valid JSON … -/
theorem C10_whole_write_valid (m : List KV) : valid (encodeMap m) = true := (doc_encodeMap m).valid

/-- … and loads to the entries that were dumped, sorted by key (invalid UTF-8 replaced by U+FFFD, as `json.Marshal` does) -/
theorem C10_whole_write_loads (m : List KV) : load (encodeMap m) = .ok ((m.mergeSort kvLE).map sanKV) := load_encodeMap m

/-- a string without invalid UTF-8 (every task name: the lexer only accepts letters, digits and `_`; every digest: hex) -/
def ValidUtf8 (s : Bytes) : Prop := ∀ r ∈ decodeAll s, r.invalid = false

theorem find_of_mem_nodup : ∀ (l : List KV) (k v : Bytes), (l.map (·.1)).Nodup → (k, v) ∈ l → l.find? (·.1 == k) = some (k, v) :=
  fun _ _ _ hn h => find?_key_of_mem hn h

theorem lookup_of_mem {l : List KV} {k v : Bytes} (hn : (l.map (·.1)).Nodup) (h : (k, v) ∈ l) : lookup l k = some v := by
  unfold lookup
  rw [find?_key_reverse_of_mem hn h]; rfl

theorem lookup_none {l : List KV} {k : Bytes} (h : ∀ v, (k, v) ∉ l) : lookup l k = none := by
  unfold lookup
  rw [find?_key_eq_none (by simpa using fun v => h v)]; rfl

/-- the map a list of entries with distinct keys denotes does not depend on their order -/
theorem lookup_perm {l1 l2 : List KV} (hp : l1.Perm l2) (hn : (l1.map (·.1)).Nodup) (k : Bytes) : lookup l1 k = lookup l2 k := by
  have hn2 : (l2.map (·.1)).Nodup := (hp.map _).nodup_iff.mp hn
  by_cases h : ∃ v, (k, v) ∈ l1
  · obtain ⟨v, hv⟩ := h
    rw [lookup_of_mem hn hv, lookup_of_mem hn2 (hp.mem_iff.mp hv)]
  · have h1 : ∀ v, (k, v) ∉ l1 := fun v hv => h ⟨v, hv⟩
    have h2 : ∀ v, (k, v) ∉ l2 := fun v hv => h ⟨v, hp.mem_iff.mpr hv⟩
    rw [lookup_none h1, lookup_none h2]

theorem sanKV_valid {kv : KV} (h1 : ValidUtf8 kv.1) (h2 : ValidUtf8 kv.2) : sanKV kv = kv := by
  unfold sanKV; rw [sanitize_valid _ h1, sanitize_valid _ h2]

/-- **the completed write gives back the very map that was dumped**: same keys, same values -/
theorem C10_whole_write_same_map (m : List KV) (hk : (m.map (·.1)).Nodup)
    (hv : ∀ kv ∈ m, ValidUtf8 kv.1 ∧ ValidUtf8 kv.2) :
    ∃ kvs, load (encodeMap m) = .ok kvs ∧ ∀ k, lookup kvs k = lookup m k := by
  refine ⟨m.mergeSort kvLE, ?_, ?_⟩
  · rw [load_encodeMap]
    congr 1
    have : ∀ kv ∈ m.mergeSort kvLE, sanKV kv = kv := fun kv hkv =>
      let h := hv kv ((List.mergeSort_perm m kvLE).mem_iff.mp hkv)
      sanKV_valid h.1 h.2
    exact (List.map_congr_left this).trans (List.map_id _)
  · intro k
    exact (lookup_perm (List.mergeSort_perm m kvLE).symm hk k).symm

/-! ## the file state of the run machine, from the bytes -/

inductive FileClass where
  | missing | corrupt | valid
deriving DecidableEq, Repr

/-- what `Exists` + `Load` make of the cache file (`none`: no such file) -/
def classOf : Option Bytes → FileClass
  | none => .missing
  | some b => match load b with
    | .ok _ => .valid
    | _ => .corrupt

/-- **`cache.Init`** (a fresh project: every task name with the empty digest, written by the same `Dump`): the file loads,
    every task is in it, and every digest read back is `""` — "never succeeded", the `mem := fun _ => none` of the run
    machine's `initWriting` step; a torn `Init` is a syntax error like any other torn write (`C10_torn_write_is_syntax_error`) -/
theorem C10_init_file (names : List Bytes) (hn : names.Nodup) (hv : ∀ n ∈ names, ValidUtf8 n) :
    ∃ kvs, load (encodeMap (names.map fun n => (n, []))) = .ok kvs ∧
      (∀ n ∈ names, lookup kvs n = some []) ∧ ∀ k, k ∉ names → lookup kvs k = none := by
  have hk : ((names.map fun n => ((n, []) : KV)).map (·.1)).Nodup := by
    have e : (names.map fun n => ((n, []) : KV)).map (·.1) = names := by
      rw [List.map_map]; exact (List.map_congr_left (fun _ _ => rfl)).trans (List.map_id _)
    rw [e]; exact hn
  obtain ⟨kvs, hl, hlk⟩ := C10_whole_write_same_map (names.map fun n => (n, [])) hk (by
    intro kv hkv
    obtain ⟨n, hnm, rfl⟩ := List.mem_map.mp hkv
    exact ⟨hv n hnm, by intro r hr; simp [decodeAll] at hr⟩)
  refine ⟨kvs, hl, ?_, ?_⟩
  · intro n hnm
    rw [hlk]
    exact lookup_of_mem hk (List.mem_map.mpr ⟨n, hnm, rfl⟩)
  · intro k hk'
    rw [hlk]
    exact lookup_none (by
      intro v hmem
      obtain ⟨n, hnm, he⟩ := List.mem_map.mp hmem
      exact hk' (by cases he; exact hnm))

/-- the hypotheses of `C10_init_file` are met by ordinary task names -/
example : [Json.ascii "build", Json.ascii "test", Json.ascii "lint"].Nodup ∧
    ∀ n ∈ [Json.ascii "build", Json.ascii "test", Json.ascii "lint"], ValidUtf8 n := by
  refine ⟨by decide, ?_⟩
  intro n hn
  simp only [List.mem_cons, List.mem_nil_iff, or_false] at hn
  rcases hn with rfl | rfl | rfl <;> (intro r hr; revert r; decide +kernel)

/-- after "truncate, then write some prefix of the new contents" the file is `valid` exactly when the write completed
    — the two micro-steps `corrupt`, `valid s.mem` of `Run.step` -/
theorem C10_disk_class (m : List KV) (q : Bytes) (hq : q <+: encodeMap m) :
    classOf (some q) = if q = encodeMap m then .valid else .corrupt := by
  by_cases h : q = encodeMap m
  · subst h; simp [classOf, load_encodeMap]
  · simp [classOf, C10_torn_write_is_syntax_error m q hq h, h]

/-- the judge of the json engine accepts what the model does, at every cut -/
theorem judge_accepts_model (m : List KV) (cut : Nat) :
    Spok.Judge.Json.c10torn m (encodeMap m).length cut
      (match load ((encodeMap m).take cut) with
       | .syntaxErr => .syntaxErr | .typeErr => .typeErr | .nullMap => .nullMap | .ok kvs => .ok kvs) = true := by
  unfold Spok.Judge.Json.c10torn
  by_cases h : cut < (encodeMap m).length
  · simp [h, C10_torn_write_take m cut h, Spok.Judge.Json.LoadObs.isErr]
  · have ht : (encodeMap m).take cut = encodeMap m := List.take_of_length_le (by omega)
    simp only [h, if_false, ht, load_encodeMap, Spok.Judge.Json.sameMap, Bool.and_eq_true, List.all_eq_true, List.any_eq_true,
      beq_iff_eq]
    have hp := List.mergeSort_perm m kvLE
    constructor
    · intro e he
      obtain ⟨kv, hkv, rfl⟩ := List.mem_map.mp he
      exact ⟨kv, hp.mem_iff.mp hkv, rfl⟩
    · intro kv hkv
      exact ⟨sanKV kv, List.mem_map.mpr ⟨kv, hp.mem_iff.mpr hkv, rfl⟩, rfl⟩

/-! ## non-vacuity -/

/-- `{"a":"","b":"1"}` -/
def sample : Bytes := [123, 34, 97, 34, 58, 34, 34, 44, 34, 98, 34, 58, 34, 49, 34, 125]

example : (123 :: (joinComma ([([97], []), ([98], [49])].map encEntry) ++ [125]) : Bytes) = sample := by decide +kernel
example : load sample = .ok [([97], []), ([98], [49])] := by decide +kernel
example : load (sample.take 15) = .syntaxErr ∧ load (sample.take 9) = .syntaxErr ∧ load [] = .syntaxErr := by decide +kernel
/-- `{"a":1}` and `null` -/
example : load [123, 34, 97, 34, 58, 49, 125] = .typeErr ∧ load [110, 117, 108, 108] = .nullMap := by decide +kernel
example : (([([98], [49]), ([97], [])] : List KV).map (·.1)).Nodup := by decide
/-- `ä` (C3 A4) is valid, a lone C3 is not -/
example : sanitize [98, 0xC3, 0xA4] = [98, 0xC3, 0xA4] ∧ sanitize [98, 0xC3] = [98, 0xEF, 0xBF, 0xBD] := by decide +kernel

end Spok.Props.C10Json
