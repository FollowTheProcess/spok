import Spok.Props.C07
/-! # Property C15 — formatting keeps every comment and every task's docstring

`notes t` is the sequence of non-empty comments (trimmed, as the formatter and `--show` see them), the
positions of the statements between them, and every task's (trimmed) docstring.  `notes (norm t) = notes t`
holds for EVERY tree; with C07's `print_parse`, `parse_wf` and `format_selfDec`, for every byte string that
parses the formatted bytes parse to a tree with the same notes: no comment lost, duplicated, moved past a
statement or turned into the docstring of a task it did not document. -/
namespace Spok.Props.C15
open Spok

theorem notes_norm (t : Tree) : notes (norm t) = notes t := Spok.notes_norm t

/-- **C15** (byte level, full strength) -/
theorem C15 (bytes : List UInt8) (hp : (parse bytes).fail = none) :
    (parse (flat (format (parse bytes).tree))).fail = none ∧
    notes (parse (flat (format (parse bytes).tree))).tree = notes (parse bytes).tree := by
  rw [show parse (flat (format (parse bytes).tree)) = _ from C07.fmt_tree bytes hp]
  exact ⟨rfl, Spok.notes_norm _⟩

theorem judge_accepts_model (bytes : List UInt8) (hp : (parse bytes).fail = none) :
    Judge.c15 (parse bytes).tree (.ok (parse (flat (format (parse bytes).tree))).tree) = true := by
  have := (C15 bytes hp).2
  simp [Judge.c15, this]

example : notes (parseRunes (format Fmt.exTree)).tree = notes Fmt.exTree := by
  rw [C07.print_parse _ Fmt.exTree_wf]; exact Spok.notes_norm _

/-- **C15, any number of times**: no comment or docstring is lost, duplicated or moved however often the file is
    formatted (`C07.fmtB` is one `spok --fmt`, `C07.fmtN n` is `n` of them). -/
theorem C15_iter (bytes : List UInt8) (hp : (parse bytes).fail = none) (n : Nat) :
    (parse (C07.fmtN n (C07.fmtB bytes))).fail = none ∧
    notes (parse (C07.fmtN n (C07.fmtB bytes))).tree = notes (parse bytes).tree := by
  rw [C07.fmtN_tree bytes hp n]; exact ⟨rfl, Spok.notes_norm _⟩

example : notes (parse (C07.fmtN 4 (C07.fmtB (flat (format Fmt.exTree))))).tree = notes (parse (flat (format Fmt.exTree))).tree :=
  (C15_iter _ C07.exText_parses 4).2

end Spok.Props.C15
