import Spok.Lemmas.RT.Assemble
import Spok.Lemmas.RT.Format
import Spok.Judge.Syntax
import Spok.Lemmas.Utf8Enc
/-! # Property C06 — parsing recovers exactly the structure written, in every admissible layout

`Doc t txt` (`Syntax/Render.lean`) says that `txt` is the tree `t` written out in some layout the
syntax admits: any whitespace (blanks, tabs, LF, CRLF, lone CR, Unicode spaces) before, between and
after statements and around punctuation, except in the slots where the lexer reads it otherwise (after a
string argument it does not begin with a line end; between the string of a declaration and its line end
there are only blanks and tabs; between the last command and a closing brace on its line at most one
blank); LF or CRLF line ends; optional trailing commas; a single output bare or parenthesised; one-line
or multi-line bodies with optional carriage returns before the newlines; names and strings with
non-ASCII runes.  The relation is purely syntactic — its side conditions are about which runes a name, a
string, a comment or a command may contain and which whitespace may stand in which slot.

`C06` states that the model of lexer + parser returns exactly `t`, with no error, for EVERY such text:
every tree, every size, every choice of whitespace.  It is assembled from the lexing lemmas per
statement kind (`Lemmas/RT/Comment, Assign, Task`, on top of `Lemmas/RT/States`), the parser lemmas on token views
(`Lemmas/RT/ParseViews`) and an induction over the file (`Lemmas/RT/Assemble`). -/
namespace Spok.Props.C06
open Spok

/-- **C06** (rune level): any admissible layout of a tree parses to exactly that tree. -/
theorem C06 (t : Tree) (txt : List Rune) (h : Doc t txt) : parseRunes txt = ⟨t, none⟩ :=
  parseRunes_doc t txt h

/-- **C06** (byte level): a byte string whose decoding is an admissible layout of `t` parses to `t`. -/
theorem C06_bytes (t : Tree) (bytes : List UInt8) (h : Doc t (decodeAll bytes)) : parse bytes = ⟨t, none⟩ := by
  unfold parse; exact C06 t _ h

/-- the judge accepts the model: on an admissible layout the model's outcome is the expected tree -/
theorem judge_accepts_model (t : Tree) (bytes : List UInt8) (h : Doc t (decodeAll bytes)) :
    Judge.c06 t (.ok (parse bytes).tree) = true := by
  rw [C06_bytes t bytes h]; simp [Judge.c06]

/-- the four lexing specifications of `Lemmas/RT/Defs.lean`: the text of a comment, of an assignment and of a task is
    lexed from one statement boundary to the next, that of a parenthesised list up to its `)`, each to the tokens
    `StmtViews` / `ItemViews` give for it -/
theorem lexing_specs : LexStmtSpec Node.isComment ∧ LexStmtSpec Node.isAssign ∧ LexStmtSpec Node.isTask ∧ LexParenSpec :=
  ⟨lexStmt_comment, lexStmt_assign, lexStmt_task, lexParen_spec⟩

/-- **Non-ASCII text reaches the lexer as written.**  A file that is well-formed UTF-8 — the encodings (`utf8.EncodeRune`)
    of Unicode scalar values, in any number and order — is decoded by the lexer's `utf8.DecodeRune` loop to exactly those
    code points, none flagged invalid: C06's "non-ASCII letters in names and strings" is about the characters the user
    wrote, not about an artefact of the decoder. -/
theorem C06_utf8_text (cps : List Nat) (h : ∀ cp ∈ cps, Spok.Json.isScalar cp) :
    (decodeAll (cps.flatMap Spok.Json.utf8enc)).map (·.cp) = cps ∧
    ∀ r ∈ decodeAll (cps.flatMap Spok.Json.utf8enc), r.invalid = false :=
  Spok.Json.decodeAll_utf8 cps h

/-- … and a validly decoded rune re-encodes to the bytes it came from -/
theorem C06_utf8_reencode (b0 : UInt8) (rest : List UInt8) (h : (decode1 b0 rest).invalid = false) :
    Spok.Json.utf8enc (decode1 b0 rest).cp = (decode1 b0 rest).bytes := Spok.Json.utf8enc_decode1 b0 rest h

/-! ## non-vacuity: the formatter's output for a tree with every kind of statement is an admissible
layout (so `Doc` is inhabited by non-trivial texts), and the theorem applies to it -/

example : Doc (norm Fmt.exTree) (format Fmt.exTree) := renders_format _ Fmt.exTree_wf

example : parseRunes (format Fmt.exTree) = ⟨norm Fmt.exTree, none⟩ :=
  C06 _ _ (renders_format _ Fmt.exTree_wf)

/-! ## corollaries about layouts -/

/-- **Layout independence**: two admissible layouts of the same structure — whatever their indentation, line ends, trailing
    commas, parenthesisation — parse to the same result. -/
theorem C06_layout_independent (t : Tree) (a b : List Rune) (ha : Doc t a) (hb : Doc t b) : parseRunes a = parseRunes b := by
  rw [C06 t a ha, C06 t b hb]

/-- **No ambiguity**: a text is an admissible layout of at most one structure (the layout relation never lets two different
    trees be written as the same text; otherwise "the structure written" would not be well defined). -/
theorem C06_unambiguous (t₁ t₂ : Tree) (txt : List Rune) (h₁ : Doc t₁ txt) (h₂ : Doc t₂ txt) : t₁ = t₂ := by
  have h := (C06 t₁ txt h₁).symm.trans (C06 t₂ txt h₂)
  exact congrArg ParseResult.tree h

/-- **One canonical text**: formatting any admissible layout of `t` prints what formatting `t` prints. -/
theorem C06_canonical (t : Tree) (txt : List Rune) (h : Doc t txt) : format (parseRunes txt).tree = format t := by
  rw [C06 t txt h]

example : ∀ txt, Doc (norm Fmt.exTree) txt → parseRunes txt = parseRunes (format Fmt.exTree) :=
  fun txt h => C06_layout_independent _ txt _ h (renders_format _ Fmt.exTree_wf)

end Spok.Props.C06
