import Spok.Lemmas.GraphJudge
/-! # Property C03 — requested tasks and their transitive dependencies run once, dependencies first

Theorems about the model `Spok.Graph` (`plan`, `exec`), for **all** task tables, request lists, failing sets and
**all** oracles (= all iteration orders Go may choose for the maps and sets inside `dag.Sort`); no size bound.
Vocabulary (`Spok/Graph.lean`): `Reach ts req n` — `n` is requested or reachable from a requested task through declared
task dependencies; `Erroneous ts req` — a name is defined twice, or a selected name is undefined, or the dependencies of
the selected tasks contain a cycle (`Cyclic`: a selected task on a `DependsOn`-path to itself). -/
namespace Spok.Props.C03
open Spok.Graph Spok.Judge.Graph

variable {α : Type} [DecidableEq α]

/-- **C03, successful planning.** Whatever order Go iterates its maps in: a run order contains no task twice, contains
    exactly the requested tasks and everything reachable from them, and every dependency comes before its dependent. -/
theorem C03_ok (o : Oracle α) (ts : Table α) (req order : List α) (h : plan o ts req = .ok order) :
    order.Nodup ∧ (∀ n, n ∈ order ↔ Reach ts req n) ∧
    (∀ a b, b ∈ order → a ∈ deps ts b → order.idxOf a < order.idxOf b) := by
  exact (plan_ok h).2.2.2.2

/-- **C03, errors.** For a non-empty request and every oracle: `plan` reports an error exactly when a task name is
    defined twice, or a requested / depended-upon name is undefined, or the selected tasks' dependencies contain a cycle.
    (⇐ is "no spurious error"; it contains the argument that Kahn's algorithm emits every vertex of an acyclic graph.) -/
theorem C03_err (o : Oracle α) (ts : Table α) (req : List α) (hreq : req ≠ []) :
    (¬ (names ts).Nodup ∨ (∃ n, Reach ts req n ∧ Undefined ts n) ∨ Cyclic ts req) ↔ ∃ e, plan o ts req = .error e := by
  constructor
  · exact fun herr => (plan_cases o ts req).resolve_left fun ⟨_, hp⟩ => not_erroneous_of_plan_ok hp herr
  · rintro ⟨e, he⟩
    rcases erroneous_of_plan_error he with h | h
    · exact absurd h hreq
    · exact h

/-- the empty request, as the code has it: `dag.Sort` rejects the empty graph (the CLI never passes an empty request) -/
theorem C03_empty_request (o : Oracle α) (ts : Table α) : ∃ e, plan o ts [] = .error e := by
  exact (plan_cases o ts []).resolve_left fun ⟨_, hp⟩ => (plan_ok hp).2.2.2.1 rfl

/-- **C03 does not depend on Go's map iteration order.**  If planning succeeds under one iteration order (`o₁`) it succeeds under
    every other (`o₂`), and the two run orders contain the same tasks, each once: they are permutations of one another (both
    dependency-respecting by `C03_ok`).  So which tasks run, and that they run, is never a matter of luck. -/
theorem C03_oracle_independent (o₁ o₂ : Oracle α) (ts : Table α) (req order₁ : List α) (h : plan o₁ ts req = .ok order₁) :
    ∃ order₂, plan o₂ ts req = .ok order₂ ∧ order₁.Perm order₂ := by
  rcases plan_cases o₂ ts req with ⟨order₂, hp⟩ | ⟨e, hp⟩
  · refine ⟨order₂, hp, ?_⟩
    obtain ⟨n1, m1, _⟩ := C03_ok o₁ ts req order₁ h
    obtain ⟨n2, m2, _⟩ := C03_ok o₂ ts req order₂ hp
    exact (List.perm_ext_iff_of_nodup n1 n2).2 (fun a => (m1 a).trans (m2 a).symm)
  · have hne : req ≠ [] := by
      rintro rfl
      obtain ⟨e', he'⟩ := C03_empty_request o₁ ts
      rw [h] at he'; cases he'
    have herr := (C03_err o₂ ts req hne).2 ⟨e, hp⟩
    obtain ⟨e', he'⟩ := (C03_err o₁ ts req hne).1 herr
    rw [h] at he'; cases he'

/-- which error: the class reported tells the cause, and "could not add edge" (`Err.other`) is never reported -/
theorem C03_error_class (o : Oracle α) (ts : Table α) (req : List α) (e : Err) (h : plan o ts req = .error e) :
    (e = .duplicate ↔ ¬ (names ts).Nodup) ∧
    (e = .noSuchTask ∨ e = .noSuchDependency → ∃ n, Reach ts req n ∧ Undefined ts n) ∧
    (e = .cycle → req = [] ∨ Cyclic ts req) ∧
    e ≠ .other := by
  have := plan_spec o ts req
  rw [h] at this
  cases this with
  | duplicate hd => exact ⟨by simp [hd], by simp, by simp, by simp⟩
  | undefined _ hnd he hu =>
    refine ⟨?_, fun _ => hu, ?_, ?_⟩
    · rcases he with rfl | rfl <;> simp [hnd]
    · rcases he with rfl | rfl <;> simp
    · rcases he with rfl | rfl <;> simp
  | cycle hnd _ hc => exact ⟨by simp [hnd], by simp, fun _ => Or.inr hc, by simp⟩
  | empty hnd hr => exact ⟨by simp [hnd], by simp, fun _ => Or.inl hr, by simp⟩

/-- the loop of `dag.Sort` always ends (the model's fuel never runs out), for every oracle -/
theorem C03_sort_terminates (o : Oracle α) (ts : Table α) (req : List α) (fails : α → Bool) :
    plan o ts req ≠ .spin ∧ exec o ts req fails ≠ .spin := by
  refine ⟨plan_ne_spin o ts req, ?_⟩
  rcases plan_cases o ts req with ⟨_, hp⟩ | ⟨_, hp⟩ <;> simp [exec, hp]

/-- **C03, an error runs nothing.** -/
theorem C03_error_runs_nothing (o : Oracle α) (ts : Table α) (req : List α) (fails : α → Bool) (e : Err)
    (h : plan o ts req = .error e) : exec o ts req fails = .ok ⟨some e, []⟩ := by
  simp [exec, h]

/-- **C03, failing commands.** Whatever fails, the run loop makes exactly one Runner call per planned task, in plan
    order: every selected task is started exactly once, nothing else is started, dependencies first. -/
theorem C03_each_once_even_on_failure (o : Oracle α) (ts : Table α) (req order : List α) (fails : α → Bool)
    (h : plan o ts req = .ok order) :
    exec o ts req fails = .ok ⟨none, order⟩ ∧
    (∀ n, Reach ts req n → order.count n = 1) ∧ (∀ n, ¬ Reach ts req n → order.count n = 0) := by
  obtain ⟨hnd, hmem, _⟩ := C03_ok o ts req order h
  refine ⟨?_, ?_, ?_⟩
  · simp [exec, h, runLoop_calls]
  · intro n hn
    rw [hnd.count, if_pos ((hmem n).mpr hn)]
  · intro n hn
    rw [hnd.count, if_neg (fun hm => hn ((hmem n).mp hm))]

/-- **C03, nothing is silently left out**: for a non-empty request, either an error is reported and nothing runs, or
    every requested and every depended-upon task is started (exactly once, by the theorem above). -/
theorem C03_no_silent_omission (o : Oracle α) (ts : Table α) (req : List α) (fails : α → Bool) :
    (∃ e, exec o ts req fails = .ok ⟨some e, []⟩) ∨
    (∃ calls, exec o ts req fails = .ok ⟨none, calls⟩ ∧ ∀ n, Reach ts req n → n ∈ calls) := by
  rcases plan_cases o ts req with ⟨order, hp⟩ | ⟨e, hp⟩
  · exact .inr ⟨order, (C03_each_once_even_on_failure o ts req order fails hp).1,
      fun n hn => ((C03_ok o ts req order hp).2.1 n).mpr hn⟩
  · exact .inl ⟨e, C03_error_runs_nothing o ts req fails e hp⟩

/-- **Kahn refines the emission relation, for every oracle.** On the graph `buildGraph` returns, whatever `dag.Sort`
    returns is an emission sequence (`EmitSeq`: each vertex is new and all its parents were emitted before it) that
    cannot be extended (`Stuck`: every vertex left over still waits for a parent that was never emitted); and the only
    error `Sort` itself can report is the empty initial queue. -/
theorem C03_kahn_refines_emit (o : Oracle α) (ts : Table α) (req : List α) (g : Graph α) (hc : closure ts req = .ok g) :
    (∃ r, sort o g = .ok r ∧ EmitSeq g.verts g.edges r ∧ Stuck g.verts g.edges r) ∨
    (sort o g = .error .cycle ∧ Stuck g.verts g.edges []) :=
  sort_spec (wf_of_selected (closure_ok hc)) o

/-- what `buildGraph` returns: the vertices are exactly the selected tasks (each once, all defined), the edges exactly
    the declared dependencies between them; it fails exactly when a selected name is undefined -/
theorem C03_closure (ts : Table α) (req : List α) :
    (∀ g, closure ts req = .ok g →
      g.verts.Nodup ∧ (∀ n, n ∈ g.verts ↔ Reach ts req n) ∧ (∀ p c, (p, c) ∈ g.edges ↔ c ∈ g.verts ∧ p ∈ deps ts c)) ∧
    ((∃ e, closure ts req = .error e) ↔ ∃ n, Reach ts req n ∧ Undefined ts n) :=
  ⟨fun _ hc => ⟨(closure_ok hc).vnodup, (closure_ok hc).verts_iff, (closure_ok hc).edges_iff⟩, closure_error_iff⟩

/-- quantifying over oracles quantifies over exactly the iteration orders: `reorder` always yields a permutation of the
    collection, and every permutation is produced by some hint -/
theorem C03_oracle_adequate (hint l : List α) : (reorder hint l).Perm l ∧ ∀ p : List α, p.Perm l → reorder p l = p :=
  ⟨reorder_perm hint l, fun _ hp => reorder_self hp⟩

/-- the judge is the property: `c03` accepts an observed run iff `Spec` (the statement with quantifiers) holds of it -/
theorem judge_iff_spec (ts : Table α) (req : List α) (fails : α → Bool) (obs : Obs α) :
    c03 ts req fails obs = true ↔ Spec ts req fails obs := c03_iff_spec ts req fails obs

/-- the judge accepts everything the model can do, for every oracle and every set of failing tasks -/
theorem judge_accepts_model (o : Oracle α) (ts : Table α) (req : List α) (fails : α → Bool) :
    ∃ obs, exec o ts req fails = .ok obs ∧ c03 ts req fails obs = true := by
  rcases plan_cases o ts req with ⟨order, hp⟩ | ⟨e, hp⟩
  · obtain ⟨hnd, hmem, hbefore⟩ := C03_ok o ts req order hp
    refine ⟨⟨none, order⟩, (C03_each_once_even_on_failure o ts req order fails hp).1, ?_⟩
    rw [c03_iff_spec]
    refine ⟨fun herr => absurd herr (not_erroneous_of_plan_ok hp), fun _ => ⟨hnd, fun n hn => (hmem n).mp hn, ?_, ?_⟩⟩
    · intro b hb a ha
      exact hbefore a b hb ha
    · intro _
      exact ⟨Or.inl rfl, fun n hn => (hmem n).mpr hn⟩
  · refine ⟨⟨some e, []⟩, C03_error_runs_nothing o ts req fails e hp, ?_⟩
    rw [c03_iff_spec]
    refine ⟨fun _ => ⟨by simp, rfl⟩, fun hne => ?_⟩
    rcases erroneous_of_plan_error hp with hreq | herr
    · subst hreq
      refine ⟨List.nodup_nil, by simp, by simp, fun _ => ⟨Or.inr rfl, fun n hn => absurd hn reach_nil⟩⟩
    · exact absurd herr hne

/-! ## Non-vacuity: the hypotheses are met by concrete spokfiles (names are numbers here) -/

section examples

/-- c(b) b(a) a() with c = 2, b = 1, a = 0 -/
def chain3 : Table Nat := [(2, [1]), (1, [0]), (0, [])]
/-- d(b, c) b(a) c(a) a() with d = 3, b = 1, c = 2, a = 0 -/
def diamond : Table Nat := [(3, [1, 2]), (1, [0]), (2, [0]), (0, [])]
/-- x(y) y(x) i() with x = 0, y = 1, i = 2 -/
def twoCycle : Table Nat := [(0, [1]), (1, [0]), (2, [])]
/-- s(s) i() with s = 0, i = 1 -/
def selfLoop : Table Nat := [(0, [0]), (1, [])]

def noHints : Oracle Nat := ⟨[], fun _ => []⟩
/-- an oracle that iterates the other way round wherever there is a choice -/
def backwards : Oracle Nat := ⟨[3, 2, 1, 0], fun _ => [3, 2, 1, 0]⟩

-- the D2 witness: `spok c` runs a, b, c (the pinned tree ran b, c only)
example : plan noHints chain3 [2] = .ok [0, 1, 2] := by graph_eval
example : plan backwards chain3 [2] = .ok [0, 1, 2] := by graph_eval
-- the diamond has two admissible orders, each produced by some oracle; a is started once
theorem diamond_plain : plan noHints diamond [3] = .ok [0, 1, 2, 3] := by graph_eval
theorem diamond_backwards : plan backwards diamond [3] = .ok [0, 2, 1, 3] := by graph_eval
example : exec noHints diamond [3] (fun n => n == 0 || n == 2) = .ok ⟨none, [0, 1, 2, 3]⟩ := by graph_eval
-- a 2-cycle next to an independent task: an error, not a silent run of the independent task alone (D2)
example : plan noHints twoCycle [0, 2] = .error .cycle := by graph_eval
example : plan backwards twoCycle [2, 0] = .error .cycle := by graph_eval
example : plan noHints twoCycle [2] = .ok [2] := by graph_eval
-- a self-loop (D2: `spok s i` ran only i)
example : plan noHints selfLoop [0, 1] = .error .cycle := by graph_eval
example : plan noHints selfLoop [1] = .ok [1] := by graph_eval
-- undefined names and duplicate definitions
example : plan noHints chain3 [2, 7] = .error .noSuchTask := by graph_eval
example : plan noHints [(0, [5])] [0] = .error .noSuchDependency := by graph_eval
example : plan noHints [(0, []), (1, []), (0, [1])] [1] = .error .duplicate := by graph_eval
-- the hypotheses of C03_ok / C03_err are inhabited, on both sides of the equivalence
example : [0, 2, 1, 3].Nodup ∧ (∀ n, n ∈ [0, 2, 1, 3] ↔ Reach diamond [3] n) :=
  ⟨(C03_ok backwards diamond [3] _ diamond_backwards).1, (C03_ok backwards diamond [3] _ diamond_backwards).2.1⟩
example : ¬ Erroneous diamond [3] := not_erroneous_of_plan_ok diamond_plain
example : Cyclic twoCycle [0, 2] :=
  ⟨0, .req (by simp), .tail (.single (show DependsOn twoCycle 0 1 by unfold DependsOn; decide))
    (show DependsOn twoCycle 1 0 by unfold DependsOn; decide)⟩
example : ∀ o : Oracle Nat, ∃ e, plan o twoCycle [0, 2] = .error e :=
  fun o => (C03_err o twoCycle [0, 2] (by simp)).mp (Or.inr (Or.inr
    ⟨0, .req (by simp), .tail (.single (show DependsOn twoCycle 0 1 by unfold DependsOn; decide))
      (show DependsOn twoCycle 1 0 by unfold DependsOn; decide)⟩))
-- the judge rejects the behaviours of the pinned tree and accepts the correct ones
example : c03 chain3 [2] (fun _ => false) ⟨none, [1, 2]⟩ = false := by graph_eval
example : c03 chain3 [2] (fun _ => false) ⟨none, [0, 1, 2]⟩ = true := by graph_eval
example : c03 chain3 [2] (fun _ => false) ⟨none, [1, 0, 2]⟩ = false := by graph_eval
example : c03 chain3 [2] (fun _ => false) ⟨none, [0, 1, 2, 0]⟩ = false := by graph_eval
example : c03 chain3 [2] (fun _ => false) ⟨some .cycle, []⟩ = false := by graph_eval
example : c03 selfLoop [0, 1] (fun _ => false) ⟨none, [1]⟩ = false := by graph_eval
example : c03 selfLoop [0, 1] (fun _ => false) ⟨some .cycle, []⟩ = true := by graph_eval
example : c03 twoCycle [0] (fun _ => false) ⟨none, [1, 0]⟩ = false := by graph_eval
-- stopping after a failure keeps the order; starting c without b does not
example : c03 chain3 [2] (fun n => n == 0) ⟨none, [0]⟩ = true := by graph_eval
example : c03 chain3 [2] (fun n => n == 0) ⟨none, [0, 2]⟩ = false := by graph_eval

/-- `C03_oracle_independent` on the diamond: from the plain order, the backwards oracle's order exists and is a permutation -/
example : ∃ order₂, plan backwards diamond [3] = .ok order₂ ∧ [0, 1, 2, 3].Perm order₂ :=
  C03_oracle_independent noHints backwards diamond [3] _ diamond_plain

end examples

end Spok.Props.C03
