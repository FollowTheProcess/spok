import Spok.Generated.Facts

/-! # Expectations over the regenerated facts (`Generated/Facts.lean`) — the cache protocol (C01, C02, C09, C10, C14)

Proof obligations that tie the Go source as it is NOW (facts extracted from its AST on every run) to the model: when the
source changes in a way the model depends on, one of these stops checking. -/
namespace Spok.Props.FactsRun
open Spok Spok.Generated

/-- the calls that touch the cache, the hasher and the task, in source order: Exists / Init / Load at the start; per
    task the digest, the lookup, `Set ""` for a task the cache does not know yet (in memory only), the forgetting write
    before a run (`Set ""`, `Dump`), the task, and the recording write — the micro-steps of `Run.step` -/
theorem run_protocol_matches_model :
    Facts.runProtocol = ["cache.Exists", "cache.Init", "cache.Load", "hash.New().Hash", "cachedState.Get",
      "cachedState.Set(\"\")", "cachedState.Set(\"\")", "cachedState.Dump", "taskToRun.Run",
      "cachedState.Set(recorded)", "cachedState.Dump"] := rfl

/-- the cache file is written by `json.Marshal` and read by `json.Unmarshal` (`Json/Cache.lean`: `encodeMap`, `load`) -/
theorem cache_entry_points : Facts.cacheDumpCalls = ["json.Marshal"] ∧ Facts.cacheLoadCalls = ["json.Unmarshal"] := ⟨rfl, rfl⟩

end Spok.Props.FactsRun
