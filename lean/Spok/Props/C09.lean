import Spok.App
import Spok.Lemmas.App
import Spok.Judge.Cli
/-! # C09 — a failing command fails the invocation

"If any command of any executed task exits with a non-zero status, the spok invocation as a whole fails: it
exits non-zero and reports an error identifying the failing task, also under --quiet and --json and however
many other tasks succeeded."

These theorems are a *decision table* about `Spok.App.outcome` (the loop of `App.runTasks` + `main`), for every
option record and every list of results.  They are short on purpose; the weight of the claim is on the tie:
`vh-cli` runs the real binary on random spokfiles with scripted failing commands and the judge
`Spok.Judge.Cli.c09` checks exit status and report against the side-effect log.

The last sentence of the property ("the failed task is not treated as up to date by later runs") is the cache
clause: it is the theorem `C09_failure_not_recorded` of the **run** engine (`Spok/Props/C01.lean`, about
`SpokFile.run`), not repeated here; this engine observes it end to end (second invocation of every sequence,
clause `b` of the judge). -/
namespace Spok.Props.C09
open Spok.App

/-- **C09.**  For EVERY option record (`--quiet`, `--json`, `--force`, … in any combination) and every list of
    results, however many of them succeeded: if some command of some executed task has a non-zero status then
    the invocation exits 1 and the error it prints names the first failing task (with its first failing
    command).  (`outcome` does not look at the option record: that no flag matters is how `runTasks` and `main` are
    modelled, and what the tie checks of the binary.) -/
theorem C09 (o : Options) (rs : List Result) (h : ∃ r ∈ rs, ∃ c ∈ r.cmds, c.status ≠ 0) :
    (outcome o rs).exit = 1 ∧
    ∃ pre r post, rs = pre ++ r :: post ∧ (∀ p ∈ pre, p.ok = true) ∧ r.ok = false ∧
      (outcome o rs).failingTask = some r.task ∧
      ∃ c ∈ r.cmds, c.status ≠ 0 ∧ (outcome o rs).failingCmd = some c := by
  obtain ⟨pre, r, post, c, he, hpre, hr, hc, hn, hf⟩ := firstFailing_spec rs h
  have ho : outcome o rs = ⟨1, some r.task, some c⟩ := by simp [outcome, hf]
  rw [ho]
  exact ⟨rfl, pre, r, post, he, hpre, hr, rfl, c, hc, hn, rfl⟩

/-- the exit status of a whole invocation that got as far as running tasks (any of the three run actions) -/
theorem C09_exit (o : Options) (a : Action) (ha : a.isRun = true) (rs : List Result)
    (h : ∃ r ∈ rs, ∃ c ∈ r.cmds, c.status ≠ 0) : exitOf o a (some rs) = 1 := by
  rw [exitOf_of_isRun ha]
  exact (C09 o rs h).1

/-- and no JSON document (nor anything else on stdout under `--quiet`/`--json`) hides the failure -/
theorem C09_no_document (o : Options) (rs : List Result) (h : ∃ r ∈ rs, ∃ c ∈ r.cmds, c.status ≠ 0) :
    ∀ d, runStdout o rs ≠ .json d := by
  obtain ⟨_, _, _, _, _, _, _, _, _, hf⟩ := firstFailing_spec rs h
  intro d
  unfold runStdout
  rw [hf]
  simp only [Option.isNone_some, Bool.and_false]
  split
  · rename_i hc; cases hc
  · split <;> simp

/-- converse, so that the table is not one-sided: exit 0 from a run means every command succeeded -/
theorem C09_exit_zero (o : Options) (rs : List Result) (h : (outcome o rs).exit = 0) :
    ∀ r ∈ rs, ∀ c ∈ r.cmds, c.status = 0 := by
  intro r hr c hc
  apply Classical.byContradiction
  intro hn
  have := (C09 o rs ⟨r, hr, c, hc, hn⟩).1
  omega

/-! ## non-vacuity -/

def okCmd : CmdResult := ⟨"echo hi", "hi\n", "", 0⟩
def badCmd : CmdResult := ⟨"exit 3", "", "", 3⟩
def sample : List Result := [⟨"lint", [okCmd], false⟩, ⟨"docs", [], true⟩, ⟨"build", [okCmd, badCmd, okCmd], false⟩, ⟨"ship", [badCmd], false⟩]

example : ∃ r ∈ sample, ∃ c ∈ r.cmds, c.status ≠ 0 :=
  ⟨⟨"build", [okCmd, badCmd, okCmd], false⟩, by simp [sample], badCmd, by simp, by decide⟩
example : outcome { quiet := true } sample = ⟨1, some "build", some badCmd⟩ := by decide
example : outcome { json := true, force := true } sample = ⟨1, some "build", some badCmd⟩ := by decide
example : (outcome {} [⟨"lint", [okCmd], false⟩, ⟨"docs", [], true⟩]).exit = 0 := by decide

/-- the judge accepts what the model does on the sample: exit 1, the report names `build` -/
example :
    let ctx : Spok.Judge.Cli.Ctx :=
      { tasks := [⟨"build", "", [], [], [⟨"exit 3", "exit 3", "", "", 3⟩]⟩], vars := [], opts := { json := true }, args := ["build"],
        world := {}, cwd := "proj", spokfile := some "proj/spokfile" }
    Spok.Judge.Cli.c09 ctx [] { exit := 1, outEmpty := true, json := .none, taskRows := [], varRows := [], log := [(0, 0)], diff := [],
                                report := "Error: Command \"exit 3\" in task \"build\" exited with status 3" } = .ok := by
  decide +kernel

end Spok.Props.C09
