import Spok.Props.C01
import Spok.Generated.Facts
/-! # C10 — killing spok at any point never leads to a wrongly skipped task later

A kill after `k` micro-steps (`crashAt = some k`) leaves whatever `disk` holds at that point; memory is lost.  The
soundness invariant `Inv` holds after EVERY micro-step, so what a kill leaves on disk is unparsable (`corrupt`),
absent, or justified by the ghost.  Every `Dump` is two micro-steps (truncate, write). -/
namespace Spok.Props.C10
open Spok.Run Spok.Judge.Run

variable (digest : Items → Digest)

/-- **C10, the invariant.** After any history — with kills after arbitrarily many micro-steps of arbitrarily many
    invocations — the cache file is unparsable, or absent with nothing remembered, or every digest in it is the digest
    of the files its task last succeeded on. -/
theorem C10_crash_safe (h : History) :
    match (runHistory digest World.init h).1.disk with
    | .corrupt => True
    | .missing => ∀ t, (runHistory digest World.init h).1.last t = none
    | .valid m => ∀ t d, m t = some d → ∃ i, (runHistory digest World.init h).1.last t = some i ∧ digest i = d := by
  have := winv_history digest h _ (winv_init digest)
  unfold WInv InvDisk at this
  split <;> rename_i hd <;> rw [hd] at this
  · trivial
  · exact this
  · exact fun t d hm => this t d hm

/-- the same at every micro-step of every invocation: every possible kill point -/
theorem C10_every_micro_step {s : St} (hr : Reach digest false s) : InvDisk digest s.last s.disk :=
  inv_disk digest s (C01.reach_inv digest hr)

/-- **C10, skips after kills.** `C01_skip_sound` holds verbatim for histories with kills (its `Reach … false` places no
    restriction on `crashAt`): a later invocation never skips a task whose files differ from those of its last success. -/
theorem C10_skip_sound_after_kills {s : St} (hr : Reach digest false s) (t : TaskIn) (rest : List TaskIn)
    (hpc : s.pc = .decide) (hto : s.todo = t :: rest) (hskip : skipTest digest s t = true) :
    s.last t.name = some t.inp.items ∨ ∃ i j : Items, i ≠ j ∧ digest i = digest j :=
  C01.C01_skip_sound digest hr t rest hpc hto hskip

/-- **C10, damaged cache.** If a kill left the cache unparsable, the next invocation (whatever its flags and tasks) ends in
    the explicit cache-error outcome having executed and reported nothing, and leaves disk and ghost as they were. -/
theorem C10_corrupt_is_error (w : World) (force : Bool) (order : List Name) (fails : Name → Bool)
    (hd : w.disk = .corrupt) :
    outcomeOf none (runInv digest w force order fails none) = .cacheError ∧
    (runInv digest w force order fails none).out = [] ∧
    (runInv digest w force order fails none).disk = .corrupt ∧
    (runInv digest w force order fails none).last = w.last := by
  rw [runInv_corrupt digest w force order fails none hd]
  simp [outcomeOf, initSt, hd]

/-- **C10, "behaves normally or stops with an explicit error".** An invocation that is not itself killed always ends:
    results, the cache error, or the hasher's error — the cache error only when the cache was unparsable. -/
theorem C10_next_invocation_ends (w : World) (force : Bool) (order : List Name) (fails : Name → Bool) :
    (runInv digest w force order fails none).pc.terminal = true ∧
    ((runInv digest w force order fails none).pc = .cacheError → w.disk = .corrupt) :=
  ⟨runInv_terminal digest w force order fails, cacheError_only_corrupt digest w force order fails none⟩

/-- **C10, observable form.** The judge accepts every history the model produces, or the digest has a collision. -/
theorem C10_judge_accepts (h : History) :
    c10 (runHistory digest World.init h).2 = true ∨ ∃ i j : Items, i ≠ j ∧ digest i = digest j :=
  (Classical.em (Collision digest)).symm.imp (fun hnc => (judges_accept digest hnc h).2.2.1) id

/-! ## non-vacuity: kills at every kind of point -/

def inpV1 : Name → Option Inputs := fun _ => some ⟨0, [(0, 1)]⟩
def inpV2 : Name → Option Inputs := fun _ => some ⟨0, [(0, 2)]⟩
def noFail : Name → Bool := fun _ => false

def disks (r : World × ObservedHistory) : List (Outcome × DiskClass × List (Name × Out)) :=
  r.2.filterMap fun | .invoke _ _ tr oc d => some (oc, d, tr) | _ => none

/-- killed part-way through the very first cache write (2 micro-steps in): unparsable; the next run is the cache error -/
example : disks (runHistory natDigest World.init [.edit inpV1, .invoke false [0] noFail (some 2), .invoke false [0] noFail none])
    = [(.crashed, .corrupt, []), (.cacheError, .corrupt, [])] := by decide

/-- run on v1; edit; killed during the command (after the invalidation was written): the old digest is gone, so the
    revert to v1 is NOT skipped although the cache is valid -/
example : disks (runHistory natDigest World.init
    [.edit inpV1, .invoke false [0] noFail none, .edit inpV2, .invoke false [0] noFail (some 3), .edit inpV1,
     .invoke false [0] noFail none])
    = [(.done, .valid, [(0, .ranOk)]), (.crashed, .valid, []), (.done, .valid, [(0, .ranOk)])] := by decide

/-- killed after the command completed but before its digest was written: conservative, runs again -/
example : disks (runHistory natDigest World.init
    [.edit inpV1, .invoke false [0] noFail (some 5), .invoke false [0] noFail none])
    = [(.crashed, .valid, [(0, .ranOk)]), (.done, .valid, [(0, .ranOk)])] := by decide

/-- killed in the middle of writing the new digest: unparsable -/
example : disks (runHistory natDigest World.init
    [.edit inpV1, .invoke false [0] noFail (some 6), .invoke false [0] noFail none])
    = [(.crashed, .corrupt, [(0, .ranOk)]), (.cacheError, .corrupt, [])] := by decide

/-- a state with a corrupt disk is reachable, so `C10_corrupt_is_error` is not vacuous -/
example : (runHistory natDigest World.init [.edit inpV1, .invoke false [0] noFail (some 2)]).1.disk.cls = .corrupt := by decide

example : c10 (runHistory natDigest World.init
    [.edit inpV1, .invoke false [0] noFail none, .edit inpV2, .invoke false [0] noFail (some 3), .edit inpV1,
     .invoke false [0] noFail none]).2 = true := by decide

/-- the judge rejects a run that silently trusts a damaged cache -/
example : c10 [.edit inpV1, .invoke false [0] [] .crashed .corrupt, .invoke false [0] [(0, .ranOk)] .done .valid] = false := by
  decide

/-- **Regenerated tie.** The calls of `SpokFile.run` that touch the cache file, the hasher and the task —
    extracted from the AST of file/file.go on every run — come in the order the machine `step` follows:
    the entry is cleared and *written* (`Set("")`, `Dump`) before the task's commands run (`taskToRun.Run`), and the
    new digest is set and written only after them.  Moving a `Dump`, dropping the invalidation or recording
    before the run breaks this obligation. -/
theorem run_protocol_as_modelled :
    Spok.Generated.Facts.runProtocol =
      ["cache.Exists", "cache.Init", "cache.Load", "hash.New().Hash", "cachedState.Get", "cachedState.Set(\"\")",
       "cachedState.Set(\"\")", "cachedState.Dump", "taskToRun.Run", "cachedState.Set(recorded)", "cachedState.Dump"] :=
  rfl

end Spok.Props.C10
