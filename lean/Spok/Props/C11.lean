import Spok.Props.C07
/-! # Property C11 — formatting is idempotent

`format (norm t) = format t` holds for EVERY tree (the printer trims comment text, so re-spelling a
comment as `# ` + trimmed text prints the same).  With C07's `print_parse`, `parse_wf` and
`format_selfDec` this gives, for every byte string that parses: formatting the formatted bytes returns
them unchanged. -/
namespace Spok.Props.C11
open Spok

/-- the printed form of the normalised tree is the printed form of the tree — every tree -/
theorem format_norm (t : Tree) : format (norm t) = format t := Spok.format_norm t

/-- `norm` is idempotent: a fixed point is reached after one application -/
theorem norm_idem (t : Tree) : norm (norm t) = norm t := Spok.norm_idem t

/-- **C11** (byte level, full strength): `fmt (fmt x) = fmt x` for every `x` that parses, where
    `fmt x = flat (format (parse x).tree)`; the second parse never fails. -/
theorem C11 (bytes : List UInt8) (hp : (parse bytes).fail = none) :
    (parse (flat (format (parse bytes).tree))).fail = none ∧
    flat (format (parse (flat (format (parse bytes).tree))).tree) = flat (format (parse bytes).tree) := by
  rw [show parse (flat (format (parse bytes).tree)) = _ from C07.fmt_tree bytes hp]
  exact ⟨rfl, by rw [Spok.format_norm]⟩

/-- the judge accepts the model -/
theorem judge_accepts_model (bytes : List UInt8) (hp : (parse bytes).fail = none) :
    Judge.c11 (flat (format (parse bytes).tree)) (flat (format (parse (flat (format (parse bytes).tree))).tree)) = true := by
  rw [(C11 bytes hp).2]; simp [Judge.c11]

example : format (parseRunes (format Fmt.exTree)).tree = format Fmt.exTree := by
  rw [C07.print_parse _ Fmt.exTree_wf]; exact Spok.format_norm _

/-! ## any number of formattings

"Idempotent" for ONE re-formatting does not by itself say that a file formatted by every commit hook for a year stays what it
was after the first.  With `C07.fmtB` (one `spok --fmt` on bytes) and `C07.fmtN n` (`n` of them): after the first formatting
every further one parses and changes nothing — for every `n`. -/

/-- **C11, any number of times**: for every input that parses and every `n`, the bytes after `1 + n` formattings are the
    bytes after one, and they parse. -/
theorem C11_iter (bytes : List UInt8) (hp : (parse bytes).fail = none) (n : Nat) :
    (parse (C07.fmtN n (C07.fmtB bytes))).fail = none ∧ C07.fmtN n (C07.fmtB bytes) = C07.fmtB bytes :=
  C07.fmtN_fmtB bytes hp n

/-- non-vacuity: the theorem applies to the formatted bytes of the example tree (which parse: `C07.exText_parses`), e.g. `n = 5` -/
example : C07.fmtN 5 (C07.fmtB (flat (format Fmt.exTree))) = C07.fmtB (flat (format Fmt.exTree)) :=
  (C11_iter _ C07.exText_parses 5).2

end Spok.Props.C11
