import Spok.Lemmas.GlobWalk
import Spok.Judge.Glob
/-! # Property C05 — a glob denotes exactly the matching non-hidden files under the spokfile's directory

`Glob.matches` is the specification (left to right, `*`/`?` inside one component, `**` = zero or more
whole components, a segment followed by `/` denotes a directory); `Glob.walk` mirrors doublestar's
`GlobWalk` with the callback as a parameter; `Glob.expandGlob` is the walk with spok's callback.

The theorems hold for **every** tree (any depth, any number of entries, any listing order — no
hypothesis that the listing is sorted or the names distinct) and every pattern of the subset.
Equality of the expansion with the specified set is stated *extensionally* (`v ∈ … ↔ …`): the
expansion is a list in walk order and a pattern with two `**` (e.g. `**/**`) visits a path once per way
of matching it, so "as a list" it can hold a path twice; as a set it is exactly the specified one.
The judge (`Judge.c05`) compares sets in the same way. -/
namespace Spok.Props.C05
open Spok.Glob Spok.Judge

theorem parse_ne_nil {s : List Char} {pat : Pattern} (h : Pattern.parse s = some pat) : pat ≠ [] := by
  unfold Pattern.parse at h
  split at h
  · cases h
  · rename_i hne
    rintro rfl
    exact hne h

/-- **the walk visits exactly the matching entries** (`walk_no_skip_visits_all_matches`): with a callback
    that never answers `SkipDir`, `GlobWalk` calls it on an entry of the tree iff the entry's relative
    path matches the pattern — nothing matching is left out, nothing else is visited, whatever else the
    tree holds (hidden files, hidden directories, directories matching the pattern, empty directories). -/
theorem walk_no_skip_visits_all_matches (cs : List (Name × Node)) (pat : Pattern) (hp : pat ≠ [])
    (ans : Path → Bool → Answer) (h : ∀ p d, ans p d = .ok) (v : Visit) :
    v ∈ walk ans (.dir cs) pat ↔ v ∈ entries (.dir cs) ∧ «matches» pat v.1 v.2 = true :=
  mem_walkFrom_noSkip pat hp cs ans h v

/-- **C05, exactness.**  The expansion of a glob is exactly
    `{p ∈ paths t | matches pat p ∧ ¬ hidden p}`: every entry of the tree whose relative path matches the
    pattern and does not begin with a dot is in it, and nothing else is. -/
theorem C05_exact (cs : List (Name × Node)) (pat : Pattern) (hp : pat ≠ []) (v : Visit) :
    v ∈ expandGlob (.dir cs) pat ↔
      v ∈ entries (.dir cs) ∧ «matches» pat v.1 v.2 = true ∧ hidden v.1 = false := by
  simp only [expandGlob, run, spokCallback, List.mem_filter,
    walk_no_skip_visits_all_matches cs pat hp _ (fun _ _ => rfl), Bool.not_eq_eq_eq_not, Bool.not_true, and_assoc]

/-- the clause of the property about regular files, spelled out -/
theorem C05_files (cs : List (Name × Node)) (pat : Pattern) (hp : pat ≠ []) (p : Path) :
    (p, false) ∈ expandGlob (.dir cs) pat ↔
      (p, false) ∈ entries (.dir cs) ∧ «matches» pat p false = true ∧ hidden p = false :=
  C05_exact cs pat hp (p, false)

/-- **Only the matching, non-hidden entries matter.**  Two trees that agree on the entries that match the pattern and are not
    hidden have the same expansion (as a set): creating, deleting or renaming files the glob does not denote — hidden ones,
    ones with another extension, ones elsewhere — never changes what the glob denotes. -/
theorem C05_only_matches_matter (cs cs' : List (Name × Node)) (pat : Pattern) (hp : pat ≠ [])
    (h : ∀ v : Visit, «matches» pat v.1 v.2 = true → hidden v.1 = false → (v ∈ entries (.dir cs) ↔ v ∈ entries (.dir cs')))
    (v : Visit) : v ∈ expandGlob (.dir cs) pat ↔ v ∈ expandGlob (.dir cs') pat := by
  rw [C05_exact cs pat hp v, C05_exact cs' pat hp v]
  exact ⟨fun ⟨a, b, c⟩ => ⟨(h v b c).1 a, b, c⟩, fun ⟨a, b, c⟩ => ⟨(h v b c).2 a, b, c⟩⟩

/-- `SpokFile.expandGlobs` for one pattern: `hasGlob` treats an empty cached list as "not expanded yet" -/
def expandGlobsStep (t : Node) (pat : Pattern) (cached : List Visit) : List Visit :=
  if cached.isEmpty then expandGlob t pat else cached

/-- **C05, determinism.**  The expansion is a function of the tree and the pattern, and expanding again on an
    unchanged tree — through the cache (`hasGlob`) or not — gives the same list. -/
theorem C05_deterministic (t : Node) (pat : Pattern) :
    expandGlobsStep t pat [] = expandGlob t pat ∧
    expandGlobsStep t pat (expandGlobsStep t pat []) = expandGlob t pat := by
  constructor
  · simp [expandGlobsStep]
  · simp only [expandGlobsStep, List.isEmpty_nil, if_true]
    split <;> rfl

/-! ## the judge accepts the model -/

theorem sameSet_iff (a b : List Path) : sameSet a b = true ↔ ∀ x, x ∈ a ↔ x ∈ b := by
  simp only [sameSet, Bool.and_eq_true, List.all_eq_true, List.contains_iff_mem]
  constructor
  · rintro ⟨h1, h2⟩ x; exact ⟨h1 x, h2 x⟩
  · intro h; exact ⟨fun x hx => (h x).1 hx, fun x hx => (h x).2 hx⟩

theorem judge_accepts_model (cs : List (Name × Node)) (pat : Pattern) (hp : pat ≠ []) :
    c05 (.dir cs) pat (expandGlob (.dir cs) pat) (expandGlob (.dir cs) pat) (expandGlob (.dir cs) pat) = true := by
  -- the judge's expected set is the right-hand side of `C05_files`, word for word
  simp only [c05, Bool.and_eq_true, beq_self_eq_true, and_true, sameSet_iff, mem_observedFiles, mem_expectedFiles]
  exact C05_files cs pat hp

/-- the judge rejects an expansion that omits a matching file or includes another one -/
theorem judge_rejects_wrong_set (t : Node) (pat : Pattern) (obs o2 o3 : List Visit) (p : Path)
    (h : ¬ (p ∈ observedFiles obs ↔ p ∈ expectedFiles t pat)) : c05 t pat obs o2 o3 = false := by
  cases hc : c05 t pat obs o2 o3 with
  | false => rfl
  | true =>
    simp only [c05, Bool.and_eq_true, sameSet_iff] at hc
    exact absurd (hc.1.1 p) h

/-! ## non-vacuity: the D4 witness tree and friends (all by kernel evaluation) -/

abbrev early : Name := ['-', 'e', 'a', 'r', 'l', 'y', '.', 'x']
abbrev eslintrc : Name := ['.', 'e', 's', 'l', 'i', 'n', 't', 'r', 'c', '.', 'x']
abbrev mainx : Name := ['m', 'a', 'i', 'n', '.', 'x']
abbrev sub : Name := ['s', 'u', 'b']
abbrev sx : Name := ['s', '.', 'x']
abbrev dotgit : Name := ['.', 'g', 'i', 't']

/-- `{-early.x, .eslintrc.x, main.x}` (sorted as `ReadDir` lists them) -/
def d4 : Node := .dir [(early, .file), (eslintrc, .file), (mainx, .file)]

def starX : Pattern := [.glob [.one .star, .one (.lit '.'), .one (.lit 'x')]]          -- `*.x`
def dstarStarX : Pattern := [.dstar, .glob [.one .star, .one (.lit '.'), .one (.lit 'x')]]  -- `**/*.x`

-- the patterns above are what the parser makes of the strings
example : Pattern.parse ['*', '.', 'x'] = some starX := by decide +kernel
example : Pattern.parse ['*', '*', '/', '*', '.', 'x'] = some dstarStarX := by decide +kernel
-- an escaped star is a literal star
example : Pattern.parse ['a', '\\', '*', '*'] = some [.glob [.one (.lit 'a'), .one (.lit '*'), .one .star]] := by decide +kernel
-- outside the subset: a character class, a backslash with nothing to escape, an empty segment, `***`
example : Pattern.parse ['[', 'a', ']', '*'] = none := by decide +kernel
example : Pattern.parse ['a', '*', '\\'] = none := by decide +kernel
example : Pattern.parse ['a', '/', '/', '*'] = none := by decide +kernel
example : Pattern.parse ['a', '*', '*', '*'] = none := by decide +kernel
-- `task.New`: `?ain.x` is not a glob, `*.x` is
example : isGlob ['?', 'a', 'i', 'n', '.', 'x'] = false ∧ isGlob ['*', '.', 'x'] = true := by decide +kernel

-- `spokCallback`: `main.x` is there, the hidden file is not
example : expandGlob d4 starX = [([early], false), ([mainx], false)] := by decide +kernel
example : expandGlob d4 dstarStarX = [([early], false), ([mainx], false)] := by decide +kernel
-- the pinned callback (`SkipDir` for a hidden file) lost `main.x` (defect D4) …
example : run legacyCallback d4 starX = [([early], false)] := by decide +kernel
example : run legacyCallback d4 dstarStarX = [([early], false)] := by decide +kernel
-- … and the judge rejects that observation while accepting the repaired one
example : c05 d4 starX [([early], false)] [([early], false)] [([early], false)] = false := by decide +kernel
example : c05 d4 starX (expandGlob d4 starX) (expandGlob d4 starX) (expandGlob d4 starX) = true := by decide +kernel
-- the judge insists on the repeated expansions being the same list
example : c05 d4 starX (expandGlob d4 starX) [([mainx], false), ([early], false)] (expandGlob d4 starX) = false := by decide +kernel

/-- `{.git/s.x, main.x, sub/.git/s.x, sub/s.x}` and an empty directory `sub/sub` -/
def t2 : Node := .dir [(dotgit, .dir [(sx, .file)]), (mainx, .file),
  (sub, .dir [(dotgit, .dir [(sx, .file)]), (sx, .file), (sub, .dir [])])]

-- only a *leading* dot hides: `sub/.git/s.x` is in the expansion, `.git/s.x` is not; the hidden directory
-- does not hide its later siblings
example : expandGlob t2 dstarStarX =
    [([mainx], false), ([sub, sx], false), ([sub, dotgit, sx], false)] := by decide +kernel
-- matching *directories* are kept (the judge looks at files only, the correspondence at everything)
example : expandGlob t2 [.glob [.one (.lit 's'), .one .star], .dstar] =
    [([sub], true), ([sub, dotgit], true), ([sub, dotgit, sx], false), ([sub, sx], false), ([sub, sub], true)] := by decide +kernel
-- a segment followed by `/` denotes a directory: `*/**` does not denote the regular file `main.x`
example : «matches» [.glob [.one .star], .dstar] [mainx] false = false ∧
          «matches» [.glob [.one .star], .dstar] [sub] true = true := by decide +kernel
-- two `**`: the same path is visited once per way of matching it — the expansion is a set, not a multiset
example : expandGlob t2 [.dstar, .dstar] ≠ (expandGlob t2 [.dstar, .dstar]).eraseDups := by decide +kernel
-- the hypotheses of the theorems are met by these trees and patterns
example : starX ≠ [] ∧ dstarStarX ≠ [] := by decide +kernel

end Spok.Props.C05
