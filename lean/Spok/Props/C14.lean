import Spok.Props.C01
/-! # C14 — `--force` runs every selected task regardless of the cache, and does not damage the cache -/
namespace Spok.Props.C14
open Spok.Run Spok.Judge.Run

variable (digest : Items → Digest)

/-- **C14, the decision.** Under `--force` the skip test is false in every state: whatever the cache holds, whatever changed. -/
theorem C14_force_never_skips (s : St) (t : TaskIn) (hf : s.force = true) : skipTest digest s t = false :=
  force_never_skips digest s t hf

/-- **C14, first half.** A forced invocation (from any world: after any history, any cache contents) that returns results
    has run every selected task, and reports no skip. -/
theorem C14_force_runs_all (w : World) (order : List Name) (fails : Name → Bool) (crashAt : Option Nat)
    (hdone : (runInv digest w true order fails crashAt).pc = .finished) :
    (∀ e ∈ (runInv digest w true order fails crashAt).out, isRun e = true) ∧
    (∀ t ∈ order, (t, Out.ranOk) ∈ (runInv digest w true order fails crashAt).out ∨
                  (t, Out.ranFail) ∈ (runInv digest w true order fails crashAt).out) := by
  obtain ⟨h1, h2⟩ := runInv_forced digest w order fails crashAt hdone
  refine ⟨h1, fun t ht => ?_⟩
  obtain ⟨⟨n, o⟩, he, rfl, ho⟩ := h2 t ht
  cases o with
  | skipped => cases ho
  | ranOk => exact .inl he
  | ranFail => exact .inr he

/-- a forced invocation that is not killed and meets neither a damaged cache nor an unreadable dependency does finish -/
theorem C14_forced_run_finishes (w : World) (order : List Name) (fails : Name → Bool)
    (hd : w.disk ≠ .corrupt) (hr : ∀ t ∈ order, (w.inp t).isSome = true) :
    (runInv digest w true order fails none).pc = .finished := by
  have ht := runInv_terminal digest w true order fails
  cases hp : (runInv digest w true order fails none).pc <;> simp [hp, Pc.terminal] at ht ⊢
  · exact hd (cacheError_only_corrupt digest w true order fails none hp)
  · obtain ⟨t, ht, hnone⟩ := hashError_only_unreadable digest w true order fails none hp
    simpa [hnone] using hr t ht

/-- **C14, second half.** A forced run does not damage the cache: `C01_skip_sound` quantifies over histories in which any
    invocation may be forced (first run, after failures, after cache removal …), and the ghost it refers to is updated by
    forced successes like any other. -/
theorem C14_forced_history_sound {s : St} (hr : Reach digest false s) (t : TaskIn) (rest : List TaskIn)
    (hpc : s.pc = .decide) (hto : s.todo = t :: rest) (hskip : skipTest digest s t = true) :
    s.last t.name = some t.inp.items ∨ ∃ i j : Items, i ≠ j ∧ digest i = digest j :=
  C01.C01_skip_sound digest hr t rest hpc hto hskip

/-- **C14, observable form.** The judge accepts every history the model produces, or the digest has a collision. -/
theorem C14_judge_accepts (h : History) :
    c14 (runHistory digest World.init h).2 = true ∨ ∃ i j : Items, i ≠ j ∧ digest i = digest j :=
  (Classical.em (Collision digest)).symm.imp (fun hnc => (judges_accept digest hnc h).2.2.2) id

/-! ## non-vacuity -/

def inpV1 : Name → Option Inputs := fun t => if t = 3 then some ⟨0, []⟩ else some ⟨0, [(0, 1)]⟩
def inpV2 : Name → Option Inputs := fun t => if t = 3 then some ⟨0, []⟩ else some ⟨0, [(0, 2)]⟩
def noFail : Name → Bool := fun _ => false

def traces (r : World × ObservedHistory) : List (Bool × Outcome × List (Name × Out)) :=
  r.2.filterMap fun | .invoke f _ tr oc _ => some (f, oc, tr) | _ => none

/-- an up-to-date task is skipped unforced, runs forced (together with a file-less task), and is skipped again afterwards:
    the forced run recorded the digest like any other -/
example : traces (runHistory natDigest World.init
    [.edit inpV1, .invoke false [0] noFail none, .invoke false [0] noFail none, .invoke true [0, 3] noFail none,
     .invoke false [0] noFail none])
    = [(false, .done, [(0, .ranOk)]), (false, .done, [(0, .skipped)]), (true, .done, [(0, .ranOk), (3, .ranOk)]),
       (false, .done, [(0, .skipped)])] := by decide

/-- the D1 `--force` witness: run on v1, edit, force on v2, revert to v1: must run (last success was on v2) -/
example : traces (runHistory natDigest World.init
    [.edit inpV1, .invoke false [0] noFail none, .edit inpV2, .invoke true [0] noFail none, .edit inpV1,
     .invoke false [0] noFail none])
    = [(false, .done, [(0, .ranOk)]), (true, .done, [(0, .ranOk)]), (false, .done, [(0, .ranOk)])] := by decide

/-- the hypothesis of `C14_force_runs_all` is met by a forced first run and by a forced run on a populated cache -/
example : (runInv natDigest World.init true [0, 3] noFail none).pc = .finished := by rfl
example : (runInv natDigest (runHistory natDigest World.init [.edit inpV1, .invoke false [0] noFail none]).1 true [0, 3] noFail none).pc
    = .finished := by rfl

/-- the judge rejects a skip under `--force` and a selected task that did not run -/
example : c14 [.edit inpV1, .invoke false [0] [(0, .ranOk)] .done .valid, .invoke true [0] [(0, .skipped)] .done .valid] = false := by
  decide
example : c14 [.edit inpV1, .invoke true [0, 3] [(0, .ranOk)] .done .valid] = false := by decide

end Spok.Props.C14
