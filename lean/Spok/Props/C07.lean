import Spok.Props.C06
import Spok.Lemmas.RT.Corollaries
import Spok.Lemmas.ParseTreeOK
import Spok.Lemmas.WfSelfDec
/-! # Property C07 — formatting never changes what a spokfile does, and its output always parses

For EVERY byte string that parses, the text the formatter produces for its tree
* decodes to exactly the runes the formatter wrote (`format_selfDec`: the formatter only ever puts ASCII
  literals after the token texts it copies, and every such text is a slice of the input that ended in
  front of an ASCII rune or the end of input),
* is an admissible layout of the normalised tree (`renders_format`, using `parse_wf`: every tree the
  parser returns satisfies `wfTree`), hence parses without error to `norm t` (C06),
* and `norm t` differs from `t` only in the spelling of comments and docstrings: same variables with the
  same values, same tasks with the same dependencies, outputs and command lines, in the same order. -/
namespace Spok.Props.C07
open Spok

/-- print, then parse: no error, the normalised tree — for every well-formed tree -/
theorem print_parse (t : Tree) (h : wfTree t = true) : parseRunes (format t) = ⟨norm t, none⟩ :=
  Spok.print_parse C06.C06 h

/-- every tree the parser returns is well formed (`Lemmas/ParseTreeOK.lean`) -/
theorem parse_wf (rs : List Rune) (h : (parseRunes rs).fail = none) : wfTree (parseRunes rs).tree = true :=
  (parse_treeOK rs h).1

/-- normalisation only re-spells comments: variables, values, tasks, dependencies, outputs and
    command lines are untouched, for every tree -/
theorem sem_preserved (t : Tree) : sem (norm t) = sem t := sem_norm t

/-- the formatter's bytes, read back, are the formatter's runes -/
theorem format_bytes (bytes : List UInt8) (h : (parse bytes).fail = none) :
    parse (flat (format (parse bytes).tree)) = parseRunes (format (parse bytes).tree) := by
  show parseRunes (decodeAll (flat (format (parse bytes).tree))) = _
  rw [format_selfDec bytes h]

/-- **C07** (rune level): for every input that parses, the formatted text parses and means the same. -/
theorem C07_runes (rs : List Rune) (hp : (parseRunes rs).fail = none) :
    (parseRunes (format (parseRunes rs).tree)).fail = none ∧
    sem (parseRunes (format (parseRunes rs).tree)).tree = sem (parseRunes rs).tree := by
  rw [print_parse _ (parse_wf rs hp)]; exact ⟨rfl, sem_norm _⟩

/-- **C07** (byte level, full strength): for every byte string that parses, the bytes the formatter writes
    parse without error to a tree defining the same variables and tasks. -/
theorem C07 (bytes : List UInt8) (hp : (parse bytes).fail = none) :
    (parse (flat (format (parse bytes).tree))).fail = none ∧
    sem (parse (flat (format (parse bytes).tree))).tree = sem (parse bytes).tree := by
  rw [format_bytes bytes hp]
  exact C07_runes (decodeAll bytes) hp

/-- the judge accepts the model -/
theorem judge_accepts_model (bytes : List UInt8) (hp : (parse bytes).fail = none) :
    Judge.c07 (parse bytes).tree (.ok (parse (flat (format (parse bytes).tree))).tree) = true := by
  have := (C07 bytes hp).2
  simp [Judge.c07, this]

/-! non-vacuity -/
example : wfTree Fmt.exTree = true := Fmt.exTree_wf
example : sem (parseRunes (format Fmt.exTree)).tree = sem Fmt.exTree := by
  rw [print_parse _ Fmt.exTree_wf]; exact sem_norm _

/-! ## any number of formattings

The statement above is about ONE formatting.  A user formats a file many times (an editor hook, a CI job): `fmtB` is one
`spok --fmt` on bytes, `fmtN n` is `n` of them in a row.  The tree read back after one formatting is exactly `norm t`; a
second formatting writes the same bytes; hence after any number of formattings the file parses and means what it meant. -/

/-- one formatting of a byte string, as `spok --fmt` does it -/
def fmtB (bytes : List UInt8) : List UInt8 := flat (format (parse bytes).tree)

/-- `n` formattings in a row -/
def fmtN : Nat → List UInt8 → List UInt8
  | 0, b => b
  | n + 1, b => fmtN n (fmtB b)

/-- the tree read back from the formatted bytes is exactly the normalised tree: the precise statement of what one
    formatting does to the structure -/
theorem fmt_tree (bytes : List UInt8) (hp : (parse bytes).fail = none) :
    parse (fmtB bytes) = ⟨norm (parse bytes).tree, none⟩ := by
  have hw : wfTree (parse bytes).tree = true := parse_wf (decodeAll bytes) hp
  unfold fmtB
  rw [format_bytes bytes hp, print_parse _ hw]

/-- a second formatting writes the bytes of the first -/
theorem fmtB_fmtB (bytes : List UInt8) (hp : (parse bytes).fail = none) : fmtB (fmtB bytes) = fmtB bytes := by
  show flat (format (parse (fmtB bytes)).tree) = _
  rw [fmt_tree bytes hp]
  show flat (format (norm (parse bytes).tree)) = flat (format (parse bytes).tree)
  rw [Spok.format_norm]

/-- after the first formatting, any number of further ones parse and change nothing -/
theorem fmtN_fmtB (bytes : List UInt8) (hp : (parse bytes).fail = none) (n : Nat) :
    (parse (fmtN n (fmtB bytes))).fail = none ∧ fmtN n (fmtB bytes) = fmtB bytes := by
  induction n with
  | zero => exact ⟨by show (parse (fmtB bytes)).fail = none; rw [fmt_tree bytes hp], rfl⟩
  | succ n ih =>
    show (parse (fmtN n (fmtB (fmtB bytes)))).fail = none ∧ fmtN n (fmtB (fmtB bytes)) = fmtB bytes
    rw [fmtB_fmtB bytes hp]; exact ih

/-- the tree read back after any number of formattings is the normalised tree of the original -/
theorem fmtN_tree (bytes : List UInt8) (hp : (parse bytes).fail = none) (n : Nat) :
    parse (fmtN n (fmtB bytes)) = ⟨norm (parse bytes).tree, none⟩ := by
  rw [(fmtN_fmtB bytes hp n).2]; exact fmt_tree bytes hp

/-- **C07, any number of times**: for every input that parses and every `n`, the file after `1 + n` formattings parses
    and defines the same variables and tasks as the original. -/
theorem C07_iter (bytes : List UInt8) (hp : (parse bytes).fail = none) (n : Nat) :
    (parse (fmtN n (fmtB bytes))).fail = none ∧
    sem (parse (fmtN n (fmtB bytes))).tree = sem (parse bytes).tree := by
  rw [fmtN_tree bytes hp n]; exact ⟨rfl, sem_norm _⟩

/-- the example text parses (evaluated by the kernel), so the hypothesis of the iterated statements is met by it -/
theorem exText_parses : (parse (flat (format Fmt.exTree))).fail = none := by decide +kernel

/-- non-vacuity of the iterated statement: three formattings of the example tree's text -/
example : sem (parse (fmtN 2 (fmtB (flat (format Fmt.exTree))))).tree = sem (parse (flat (format Fmt.exTree))).tree :=
  (C07_iter _ exText_parses 2).2

end Spok.Props.C07
