import Spok.Lemmas.ListFind
import Spok.Judge.Find
import Spok.Lemmas.Find
/-! # Property C17 — spokfile discovery terminates and finds the nearest enclosing spokfile

*Termination.*  `Find.findUp` is a structural recursion on the component list of `start`
(Lean accepted the definition without a `termination_by`), mirroring the Go loop in which every
iteration either returns or replaces `start` by `filepath.Dir(start)`, and `parent == start` (the
root) returns.  So for **every** file system, start and stop the model returns; that the Go loop
takes the same exits is what the correspondence run (each call under a watchdog) checks.

*Reading fixed in DESIGN §7.6.*  Candidates are the directories at or above `start` that are not
**strict** ancestors of `stop`.  With `stop` unrelated to `start` the walk ends below their common
ancestor; a start directory that is itself above `stop` yields "none found". -/
namespace Spok.Props.C17
open Spok.Find Spok.Judge

/-! ## the candidates -/

/-- `ancestors start` are exactly the directories at or above `start` … -/
theorem mem_ancestors {start d : Dir} : d ∈ ancestors start ↔ d <+: start := by
  constructor
  · intro h; simpa using upsRev_prefix start.reverse d h
  · intro h; exact prefix_mem_upsRev start.reverse d (by simpa using h)

/-- … listed nearest first -/
theorem ancestors_nearest_first (start : Dir) :
    (ancestors start).Pairwise (fun a b => b.length < a.length) := by
  unfold ancestors
  generalize start.reverse = r
  induction r with
  | nil => simp [upsRev]
  | cons c up ih =>
    simp only [upsRev, List.pairwise_cons]
    refine ⟨?_, ih⟩
    intro d hd
    have := (upsRev_prefix up d hd).length_le
    simp at this ⊢
    omega

/-- **C17.**  For every file system, start and stop, `Find` returns the `spokfile` of the
    nearest directory at or above `start` that is not a strict ancestor of `stop`, and otherwise
    reports that none was found. (`ancestors start` lists `start`, its parent, …, `/`.  To hold a `spokfile` — a
    "regular" one below — is to pass the test of the Go loop, `!e.IsDir() && e.Name() == NAME`: any entry of that name
    that is not a directory.) -/
theorem C17_spec (fs : FS) (start stop : Dir) :
    find fs start stop =
      match (ancestors start).find? (fun d => !isAbove d stop && hasSpokfile (fs d)) with
      | some d => .found d
      | none => .notFound :=
  find_eq_spec fs start stop

/-- the same, unfolded: what is found is a candidate, and no nearer directory is one -/
theorem C17_found_iff (fs : FS) (start stop d : Dir) :
    find fs start stop = .found d ↔
      d <+: start ∧ isAbove d stop = false ∧ hasSpokfile (fs d) = true ∧
      ∀ d', d' <+: start → d.length < d'.length → ¬ (isAbove d' stop = false ∧ hasSpokfile (fs d') = true) := by
  rw [find_eq_spec, spec_eq_found,
    find?_eq_some_iff_of_pairwise (ancestors_nearest_first start) (fun _ _ h h' => Nat.lt_asymm h h')]
  simp only [mem_ancestors, candidate, Bool.and_eq_true, Bool.not_eq_eq_eq_not, Bool.not_true, ← Bool.not_eq_true,
    and_assoc]

theorem C17_notFound_iff (fs : FS) (start stop : Dir) :
    find fs start stop = .notFound ↔
      ∀ d, d <+: start → isAbove d stop = false → hasSpokfile (fs d) = false := by
  rw [find_eq_spec, spec_eq_notFound, List.find?_eq_none]
  simp [mem_ancestors, candidate]

/-- a start directory that is itself (strictly) above `stop` is never searched -/
theorem C17_start_above_stop (fs : FS) (start stop : Dir) (h : isAbove start stop = true) :
    find fs start stop = .notFound := by
  rw [C17_notFound_iff]
  intro d hd ha
  rw [isAbove_of_prefix h hd] at ha
  cases ha

/-! ## order and the other entries are irrelevant -/

/-- **C17, order-independence.**  The result depends on a directory listing only through "does it hold a
    regular file called `spokfile`": two file systems that agree on that — whatever their other entries
    (including directories called `spokfile`) and in whatever order they are listed — give the same result. -/
theorem C17_order_irrelevant (fs fs' : FS) (start stop : Dir)
    (h : ∀ d e, isSpok e = true → (e ∈ fs d ↔ e ∈ fs' d)) :
    find fs start stop = find fs' start stop := by
  have hh : ∀ d, hasSpokfile (fs d) = hasSpokfile (fs' d) := by
    intro d
    rw [Bool.eq_iff_iff]
    simp only [hasSpokfile, List.any_eq_true]
    constructor
    · rintro ⟨e, he, hs⟩; exact ⟨e, (h d e hs).1 he, hs⟩
    · rintro ⟨e, he, hs⟩; exact ⟨e, (h d e hs).2 he, hs⟩
  rw [C17_spec, C17_spec]
  simp [hh]

/-- reordering any listing changes nothing -/
theorem C17_perm (fs fs' : FS) (start stop : Dir) (h : ∀ d, (fs d).Perm (fs' d)) :
    find fs start stop = find fs' start stop :=
  C17_order_irrelevant fs fs' start stop (fun d _ _ => (h d).mem_iff)

/-- adding or removing entries that are not a regular `spokfile` changes nothing -/
theorem C17_others_irrelevant (fs : FS) (start stop : Dir) :
    find fs start stop = find (fun d => (fs d).filter isSpok) start stop :=
  C17_order_irrelevant fs _ start stop (fun d e he => by simp [he])

/-! ## where the user stands -/

/-- **Location independence.**  If discovery from `start` finds the spokfile of `d`, then discovery from EVERY directory between
    `d` and `start` finds the same one: where inside the project the user stands does not matter. -/
theorem C17_between (fs : FS) (start stop d d' : Dir) (h : find fs start stop = .found d)
    (h1 : d <+: d') (h2 : d' <+: start) : find fs d' stop = .found d := by
  obtain ⟨_, ha, hs, hn⟩ := (C17_found_iff fs start stop d).1 h
  exact (C17_found_iff fs d' stop d).2 ⟨h1, ha, hs, fun d'' hd hl => hn d'' (hd.trans h2) hl⟩

/-- … in particular discovery is stable: started in the directory it found, it finds that directory again -/
theorem C17_found_stable (fs : FS) (start stop d : Dir) (h : find fs start stop = .found d) :
    find fs d stop = .found d :=
  C17_between fs start stop d d h (List.prefix_refl d) ((C17_found_iff fs start stop d).1 h).1

/-- … and the negative side: when nothing is found from `start`, nothing is found from any directory above it either (no
    spokfile appears by standing higher up) -/
theorem C17_notFound_above (fs : FS) (start stop d' : Dir) (h : find fs start stop = .notFound) (h2 : d' <+: start) :
    find fs d' stop = .notFound :=
  (C17_notFound_iff fs d' stop).2 (fun d hd => (C17_notFound_iff fs start stop).1 h d (hd.trans h2))

/-! ## the judge accepts the model -/

theorem judge_accepts_model (fs : FS) (start stop : Dir) :
    c17 fs start stop (FindObs.ofResult (find fs start stop)) = true := by
  simp only [c17, decide_eq_true_eq]
  congr 1
  exact C17_spec fs start stop

/-- the judge rejects a call that does not return, and any other error, whatever the chain -/
theorem judge_rejects_hang (fs : FS) (start stop : Dir) :
    c17 fs start stop .hang = false ∧ c17 fs start stop .err = false := by
  constructor <;> simp only [c17, decide_eq_false_iff_not] <;> cases spec fs start stop <;> simp [FindObs.ofResult]

/-! ## non-vacuity: concrete chains -/

def file (n : String) : Entry := ⟨n, false⟩
def dir (n : String) : Entry := ⟨n, true⟩

/-- `/p` holds `aaa spokfile zzz`, `/p/q` is empty, `/p/q/r` holds a *directory* called spokfile, `/u` is unrelated -/
def fs1 : FS := fun d =>
  if d = [] then [dir "p", dir "u"]
  else if d = ["p"] then [file "aaa", dir "q", file "spokfile", file "zzz"]
  else if d = ["p", "q"] then [dir "r"]
  else if d = ["p", "q", "r"] then [dir "spokfile"]
  else []

-- the generated constant is what the model thinks it is (a respelling would still verify: the proofs never unfold it)
example : NAME = "spokfile" := by decide +kernel
-- other entries sort before the spokfile; a directory called spokfile on the way is not taken
example : find fs1 ["p", "q", "r"] ["p"] = .found ["p"] := by decide +kernel
-- `C17_between` applies to that search: from the directory in between the same spokfile is found
example : find fs1 ["p", "q"] ["p"] = .found ["p"] :=
  C17_between fs1 ["p", "q", "r"] ["p"] ["p"] ["p", "q"] (by decide) (by decide) (by decide)
-- the stop directory itself is searched, wholly
example : find fs1 ["p"] ["p"] = .found ["p"] := by decide +kernel
-- stop below the spokfile: never look above stop
example : find fs1 ["p", "q", "r"] ["p", "q"] = .notFound := by decide +kernel
-- empty stop directory (the D11 witness: the pinned loop never returned here)
example : find fs1 ["p", "q"] ["p", "q"] = .notFound := by decide +kernel
-- start not below stop (D11 witness): unrelated stop, the walk ends below the common ancestor `/`
example : find fs1 ["p", "q", "r"] ["u"] = .found ["p"] := by decide +kernel
example : find fs1 ["u"] ["p", "q"] = .notFound := by decide +kernel
-- start above stop: not searched although it holds a spokfile
example : find fs1 ["p"] ["p", "q"] = .notFound := by decide +kernel
-- the walk ends at the root
example : find fs1 ["u"] [] = .notFound := by decide +kernel
-- the spokfile being a directory: not found at all
example : find fs1 ["p", "q", "r"] ["p", "q", "r"] = .notFound := by decide +kernel
-- the hypothesis of `C17_order_irrelevant` is satisfiable by genuinely different file systems
example : ∀ d e, isSpok e = true →
    (e ∈ fs1 d ↔ e ∈ (fun d => if d = ["p"] then [file "spokfile", file "0"] else []) d) := by
  intro d e he
  have : e = file "spokfile" := by
    cases e with | mk n i =>
    simp [isSpok] at he
    have hn : n = "spokfile" := by simpa [NAME, Spok.Generated.Facts.spokfileName] using he.2
    simp [file, he.1, hn]
  subst this
  by_cases h0 : d = []; · subst h0; decide
  by_cases h1 : d = ["p"]; · subst h1; decide
  by_cases h2 : d = ["p", "q"]; · subst h2; decide
  by_cases h3 : d = ["p", "q", "r"]; · subst h3; decide
  simp only [fs1, if_neg h0, if_neg h1, if_neg h2, if_neg h3]
-- the judge accepts what the model does and rejects a wrong answer
example : c17 fs1 ["p", "q", "r"] ["u"] (.found ["p"]) = true := by decide +kernel
example : c17 fs1 ["p", "q", "r"] ["u"] .notFound = false := by decide +kernel
example : c17 fs1 ["p", "q"] ["p", "q"] .hang = false := by decide +kernel

/-! ## a relative start path -/

theorem findRelUp_spec (fs : FS) (cwd : Dir) : ∀ (up : List String),
    findRelUp fs cwd up = (match (relUps cwd up).find? (fun d => hasSpokfile (fs d)) with
      | some d => .found d
      | none => .notFound)
  | [] => by
    simp only [findRelUp, relUps, List.find?_cons, List.find?_nil]
    cases hasSpokfile (fs cwd) <;> rfl
  | c :: up => by
    simp only [findRelUp, relUps, List.find?_cons]
    cases h : hasSpokfile (fs (cwd ++ (c :: up).reverse))
    · simpa using findRelUp_spec fs cwd up
    · rfl

/-- **C17 for a relative start.**  The loop terminates (structural recursion) and returns the nearest directory between
    start and the working directory that holds a regular `spokfile`, else "none found". -/
theorem C17_rel_spec (fs : FS) (cwd : Dir) (rel : List String) : findRel fs cwd rel = relSpec fs cwd rel :=
  findRelUp_spec fs cwd rel.reverse

theorem judge_accepts_model_rel (fs : FS) (cwd : Dir) (rel : List String) :
    Spok.Judge.c17rel fs cwd rel (Spok.Judge.FindObs.ofResult (findRel fs cwd rel)) = true := by
  simp [Spok.Judge.c17rel, C17_rel_spec]

end Spok.Props.C17
