import Spok.Lemmas.RunHist
/-! # C02 — a task whose inputs are unchanged since its last success is skipped; tasks without files always run

Crash-free histories, as the property says (after a kill the cache may legitimately know less than the ghost).
No collision disjunct is needed in this direction: equal files have equal digests. -/
namespace Spok.Props.C02
open Spok.Run Spok.Judge.Run

variable (digest : Items → Digest)

/-- every state of an invocation that follows a crash-free history satisfies the completeness invariant -/
theorem reach_cinv {s : St} (h : Reach digest true s) : CInv digest s := cinv_of_reach digest h

/-- **C02.** In an invocation that follows any crash-free history: when the machine decides about an unforced task `t`
    that hands ≥ 1 regular file to the hasher and whose commands last completed successfully on exactly these files
    (cache not removed since), it skips `t` — whatever the other tasks of the run did. -/
theorem C02_skip_complete {s : St} (hr : Reach digest true s) (t : TaskIn) (rest : List TaskIn)
    (hpc : s.pc = .decide) (hto : s.todo = t :: rest) (hf : s.force = false)
    (hl : s.last t.name = some t.inp.items) (hne : t.inp.items ≠ []) :
    skipTest digest s t = true ∧ (step digest s).out = s.out ++ [(t.name, .skipped)] ∧ (step digest s).todo = rest := by
  have hs := skip_complete_upto digest Eq (fun _ _ h => h ▸ rfl) s (reach_cinv digest hr) t hpc hf _ hl rfl hne
    (Inputs.n_pos hne)
  have hrd : t.readable = true := by
    -- an unreadable task never succeeded on `t.inp.items ≠ []`: `mkTask` gives it no items
    cases h : t.readable with
    | true => rfl
    | false => exact absurd (reach_unreadable digest hr t (by simp [hto]) h) hne
  refine ⟨hs, ?_, ?_⟩ <;> simp [step, hpc, hto, hrd, hs]

/-- **C02, second clause.** A task that hands no path to the hasher (no file dependency, or globs matching nothing) is
    never skipped, in any state of any history, forced or not. -/
theorem C02_nodeps_always_run (s : St) (t : TaskIn) (hn : t.inp.n = 0) : skipTest digest s t = false := by
  simp [skipTest, hn]

/-- **C02, observable form.** The judge accepts every history the model produces (the judge demands nothing once a kill
    has been observed) … -/
theorem C02_judge_accepts (h : History) : c02 (runHistory digest World.init h).2 = true := by
  unfold c02
  rcases judge_c02_accepts digest h _ _ (cw_init digest) sync_init with h | h <;> simp [h]

/-- … and on crash-free histories it is not vacuous: every entry of every reported trace passed the C02 test. -/
theorem C02_judge_accepts_crashFree (h : History) (hcf : crashFree h = true) :
    judgeWith c02Ev Ghost.init (runHistory digest World.init h).2 = true := by
  rcases judge_c02_accepts digest h _ _ (cw_init digest) sync_init with hc | hc
  · rw [hist_nocrash digest h _ hcf] at hc; cases hc
  · exact hc

/-! ## non-vacuity -/

def inpAB : Name → Option Inputs := fun t => if t = 0 then some ⟨0, [(0, 1)]⟩ else if t = 1 then some ⟨0, [(2, 1), (3, 1)]⟩ else some ⟨0, []⟩
def inpAB' : Name → Option Inputs := fun t => if t = 0 then some ⟨0, [(0, 2)]⟩ else if t = 1 then some ⟨0, [(2, 1), (3, 1)]⟩ else some ⟨0, []⟩
def noFail : Name → Bool := fun _ => false
def failA : Name → Bool := fun t => t == 0

/-- three tasks: 0 on a file, 1 on two files, 3 without files; run all, edit 0's file -/
def hist : History := [.edit inpAB, .invoke false [0, 1, 3] noFail none, .edit inpAB']

/-- the hypotheses of `C02_skip_complete` are met by task 1 in a run where task 0 has just (re-)run and failed -/
example : ∃ s t rest, Reach natDigest true s ∧ s.pc = .decide ∧ s.todo = t :: rest ∧ s.force = false ∧
    s.last t.name = some t.inp.items ∧ t.inp.items ≠ [] ∧ s.out = [(0, .ranFail)] :=
  ⟨_, _, _, .step (.step (.step (.step (.step (.step (.start hist (by decide) false [0, 1, 3] failA)))))),
    rfl, rfl, rfl, rfl, by decide, rfl⟩

/-- … and observed: 0 fails, 1 is skipped all the same, 3 (no files) runs again; then 0 runs again, 1 and 3 as before -/
example : ((runHistory natDigest World.init
    (hist ++ [.invoke false [0, 1, 3] failA none, .invoke false [0, 1, 3] noFail none])).2.drop 3) =
    [.invoke false [0, 1, 3] [(0, .ranFail), (1, .skipped), (3, .ranOk)] .done .valid,
     .invoke false [0, 1, 3] [(0, .ranOk), (1, .skipped), (3, .ranOk)] .done .valid] := by rfl

/-- the judge is not trivially true: a needless re-run and a skipped file-less task are rejected -/
example : c02 [.edit inpAB, .invoke false [1] [(1, .ranOk)] .done .valid, .invoke false [1] [(1, .ranOk)] .done .valid] = false := by
  decide
example : c02 [.edit inpAB, .invoke false [3] [(3, .skipped)] .done .valid] = false := by decide

end Spok.Props.C02
