import Spok.App
import Spok.Lemmas.App
import Spok.Judge.Cli
/-! # C20 — reports and listings are a faithful, complete account of spokfile and run

"With --json, a run in which no command fails prints to standard output a single JSON document listing exactly
the tasks of the run in execution order, each with its skipped flag and, for every executed command, its
interpolated text, exact standard output, standard error and exit status; with --quiet standard output is
empty.  --show lists every defined task once, sorted by name, with its docstring, and --vars every variable
with its evaluated value.  Invoking spok without task names runs the task named default when one exists and
lists the tasks otherwise."

Decision tables about `Spok.App` (`jsonDoc`/`decode`, `stdoutOf`, `showRows`, `varsRows`, `action`).  They say
that the *document* is a lossless, order-preserving image of the results and that the dispatch is as stated;
that the results are what really ran is not a theorem but the tie: `vh-cli` compares the document printed by
the real binary with the side-effect log and the scripted outputs of the commands (`Spok.Judge.Cli.c20`). -/
namespace Spok.Props.C20
open Spok.App

/-- **C20 (json).**  The document is ONE value from which exactly the results of the run can be read back:
    the same tasks in the same (execution) order, each with its skipped flag and, per command, text, stdout,
    stderr and status. -/
theorem C20_json (rs : List Result) : decode (jsonDoc rs) = some rs := by
  have := optMap_map decodeResult resultJson id decodeResult_resultJson rs
  simpa [decode, jsonDoc] using this

/-- two runs with the same document had the same results: nothing is lost or merged -/
theorem C20_json_injective (rs rs' : List Result) (h : jsonDoc rs = jsonDoc rs') : rs = rs' := by
  have h1 := C20_json rs
  rw [h, C20_json rs'] at h1
  exact (Option.some.inj h1).symm

/-- with `--json`, a run in which no command fails prints exactly that document — for every other flag setting
    (`--force`, `--debug`, even `--quiet`) and for the default task as for named ones -/
theorem C20_json_printed (o : Options) (a : Action) (ha : a.isRun = true) (tasks vars : List (String × String))
    (rs : List Result) (hj : o.json = true) (hok : ∀ r ∈ rs, ∀ c ∈ r.cmds, c.status = 0) :
    stdoutOf o a tasks vars (some rs) = .json (jsonDoc rs) := by
  rw [stdoutOf_of_isRun ha]
  simp [runStdout, hj, firstFailing_none rs hok]

/-- **C20 (quiet).**  With `--quiet` (and without `--json`, which prints its document regardless) standard
    output is empty: for every action, every world, whatever ran and however it ended. -/
theorem C20_quiet (o : Options) (args : List String) (w : World) (tasks vars : List (String × String))
    (ran : Option (List Result)) (hq : o.quiet = true) (hj : o.json = false) :
    stdoutOf o (action o args w) tasks vars ran = .empty := by
  have hn : nullStream o = true := by simp [nullStream, hq]
  generalize action o args w = a
  cases a <;> simp [stdoutOf, hn]
  all_goals (cases ran <;> simp [runStdout, hn, hj])

/-- the two flags together: the document still goes to the real stdout (the property's clauses contradict each
    other here; the check compares this combination with the model and does not judge it) -/
theorem C20_quiet_json_prints (o : Options) (a : Action) (ha : a.isRun = true) (tasks vars : List (String × String))
    (rs : List Result) (_hq : o.quiet = true) (hj : o.json = true) (hok : firstFailing rs = none) :
    stdoutOf o a tasks vars (some rs) = .json (jsonDoc rs) := by
  rw [stdoutOf_of_isRun ha]
  simp [runStdout, hj, hok]

/-- **C20 (show).**  The rows of `--show` are a rearrangement of the defined tasks (every task listed, none
    invented, each row carrying that task's docstring), sorted by name; and since task names are unique (the
    keys of a map) the names are strictly increasing: each task is listed exactly once. -/
theorem C20_show (tasks : List (String × String)) :
    (showRows tasks).Perm tasks ∧
    (showRows tasks).Pairwise (fun a b => a.1 ≤ b.1) ∧
    (∀ row, row ∈ showRows tasks ↔ row ∈ tasks) ∧
    ((tasks.map (·.1)).Nodup → ((showRows tasks).map (·.1)).Pairwise (· < ·)) := by
  have hperm : (showRows tasks).Perm tasks := List.mergeSort_perm tasks byName
  have hsort : (showRows tasks).Pairwise (fun a b => a.1 ≤ b.1) := by
    have := List.pairwise_mergeSort byName_trans byName_total tasks
    simpa [byName, showRows] using this
  refine ⟨hperm, hsort, fun row => hperm.mem_iff, fun hnd => ?_⟩
  have hnd' : ((showRows tasks).map (·.1)).Nodup := (hperm.map (·.1)).nodup_iff.mpr hnd
  have hs' : ((showRows tasks).map (·.1)).Pairwise (· ≤ ·) := by
    rw [List.pairwise_map]; exact hsort
  have hne : ((showRows tasks).map (·.1)).Pairwise (· ≠ ·) := hnd'
  have := hs'.and hne
  refine this.imp ?_
  intro a b ⟨hle, hne⟩
  exact Std.lt_of_le_of_ne hle hne

/-- `--vars`: the same statement for (name, evaluated value) rows -/
theorem C20_vars (vars : List (String × String)) :
    (varsRows vars).Perm vars ∧ (varsRows vars).Pairwise (fun a b => a.1 ≤ b.1) ∧
    (∀ row, row ∈ varsRows vars ↔ row ∈ vars) :=
  let h := C20_show vars
  ⟨h.1, h.2.1, h.2.2.1⟩

/-- what is printed is those rows: `--show` (and the listing fall-back) print the task rows, `--vars` the variable rows -/
theorem C20_rows_printed (o : Options) (tasks vars : List (String × String)) (ran : Option (List Result))
    (hv : nullStream o = false) :
    stdoutOf o .show tasks vars ran = .taskRows (showRows tasks) ∧
    stdoutOf o .list tasks vars ran = .taskRows (showRows tasks) ∧
    stdoutOf o .vars tasks vars ran = .varRows (varsRows vars) := by
  simp [stdoutOf, hv]

/-- **C20 (default).**  No task names, no action flag, a spokfile that is found, parses and loads: the task
    named `default` is what is run when there is one, and the tasks are listed otherwise. -/
theorem C20_default (o : Options) (w : World)
    (hflags : o.init = false ∧ (o.quiet && o.debug) = false ∧ o.fmt = false ∧ o.vars = false ∧ o.clean = false ∧ o.show = false)
    (hw : w.ok o = true) :
    action o [] w = defaultDispatch w.hasDefault ∧
    (w.hasDefault = true → action o [] w = .runDefault ∧ requested (action o [] w) = ["default"]) ∧
    (w.hasDefault = false → action o [] w = .list ∧ requested (action o [] w) = []) := by
  obtain ⟨hi, hqd, hf, hv, hc, hs⟩ := hflags
  have hp : prepare o w = none := (prepare_none_iff o w).mpr hw
  have ha : action o [] w = defaultDispatch w.hasDefault := by
    simp [action, hi, hqd, hp, dispatch, hf, hv, hc, hs, defaultDispatch]
  rw [ha]
  refine ⟨rfl, ?_, ?_⟩ <;> intro hd <;> simp [defaultDispatch, hd, requested]

/-- with task names the named tasks are what is requested, never the default task -/
theorem C20_named (o : Options) (w : World) (t : String) (ts : List String)
    (hflags : o.init = false ∧ (o.quiet && o.debug) = false ∧ o.fmt = false ∧ o.vars = false ∧ o.clean = false ∧ o.show = false)
    (hw : w.ok o = true) : requested (action o (t :: ts) w) = t :: ts := by
  obtain ⟨hi, hqd, hf, hv, hc, hs⟩ := hflags
  have hp : prepare o w = none := (prepare_none_iff o w).mpr hw
  simp [action, hi, hqd, hp, dispatch, hf, hv, hc, hs, requested]

/-! ## non-vacuity -/

def c1 : CmdResult := ⟨"echo hello", "hello\n", "", 0⟩
def c2 : CmdResult := ⟨"echo e >&2", "", "e\n", 0⟩
def run1 : List Result := [⟨"gen", [c1, c2], false⟩, ⟨"lint", [], true⟩, ⟨"default", [c1], false⟩]

example : decode (jsonDoc run1) = some run1 := C20_json run1
example : ∀ r ∈ run1, ∀ c ∈ r.cmds, c.status = 0 := by decide
example : (stdoutOf { quiet := true } (action { quiet := true } [] { hasDefault := true }) [] [] (some run1)).isEmpty = true := by decide
example : showRows [("lint", "Second doc"), ("build", ""), ("default", "X")] = [("build", ""), ("default", "X"), ("lint", "Second doc")] := by
  simp [showRows, List.mergeSort, List.MergeSort.Internal.splitInTwo, List.splitAt, List.splitAt.go, byName]
example : action {} [] { hasDefault := true } = .runDefault ∧ action {} [] {} = .list ∧ action { force := true } ["x"] {} = .run ["x"] := by decide
example : (World.ok {} {}) = true := by decide

/-- the judge on an observed `--json` run of `build` (depends on `gen`): the document must list `gen` then `build`
    with the scripted output; a document that drops the dependency is rejected -/
example :
    let tasks : List Spok.Judge.Cli.TaskSpec :=
      [⟨"gen", "", [], [], [⟨"echo o0x0", "echo o0x0", "o0x0\n", "", 0⟩]⟩, ⟨"build", "Doc", ["gen"], [], [⟨"echo o1x0", "echo o1x0", "o1x0\n", "", 0⟩]⟩]
    let ctx : Spok.Judge.Cli.Ctx :=
      { tasks := tasks, vars := [], opts := { json := true }, args := ["build"], world := {}, cwd := "proj", spokfile := some "proj/spokfile" }
    let good : List Result := [⟨"gen", [⟨"echo o0x0", "o0x0\n", "", 0⟩], false⟩, ⟨"build", [⟨"echo o1x0", "o1x0\n", "", 0⟩], false⟩]
    let ob (rs : List Result) : Spok.Judge.Cli.Obs :=
      { exit := 0, outEmpty := false, json := .doc rs, taskRows := [], varRows := [], log := [(0, 0), (1, 0)], diff := [], report := "" }
    Spok.Judge.Cli.c20 ctx (ob good) = .ok ∧ Spok.Judge.Cli.c20 ctx (ob (good.drop 1)) = .fail ∧
    Spok.Judge.Cli.c20 ctx (ob good.reverse) = .fail := by
  decide +kernel

end Spok.Props.C20
