import Spok.Lemmas.WfLexCmd
import Spok.Lemmas.WfParse
/-! # Lexer and parser joined: what a successful parse returns

The tree satisfies `wfTree`, and every text in it is a slice of the input: a comment, string or command
text followed by an ASCII rune or the end of the input, a name made of identifier runes (`PW.TreeOK`).
No hypothesis on the runes is needed: the value-level stream invariant does not speak of line numbers. -/
namespace Spok

theorem parse_treeOK (rs : List Rune) (h : (parseRunes rs).fail = none) : PW.TreeOK rs (parseRunes rs).tree := by
  unfold parseRunes at h ⊢
  simp only [lexRunes_halted, Bool.not_true, Bool.false_eq_true, if_false] at h ⊢
  exact (PW.parseToks_spec (PW.lexRunes_strV rs)).1 h

end Spok
