import Spok.Lemmas.GraphPlan
import Spok.Judge.Graph
/-! # The judge's decision procedure is the mathematical notion: `classify` vs `Erroneous` / `Reach` -/
namespace Spok.Judge.Graph
open Spok.Graph

variable {α : Type} [DecidableEq α]

theorem classify_spec (ts : Table α) (req : List α) :
    (classify ts req = .erroneous ∧ Erroneous ts req) ∨
    ∃ sel, classify ts req = .fine sel ∧ ¬ Erroneous ts req ∧ ∀ n, n ∈ sel ↔ Reach ts req n := by
  unfold classify
  by_cases hnd : (names ts).Nodup
  case neg => exact .inl ⟨if_pos hnd, .inl hnd⟩
  rw [if_neg (not_not_intro hnd)]
  by_cases hreq : req = []
  · subst hreq
    exact .inr ⟨[], if_pos rfl, fun h => erroneous_nil_iff.1 h hnd, fun n => ⟨nofun, fun h => absurd h reach_nil⟩⟩
  rw [if_neg hreq]
  rcases plan_cases plainOracle ts req with ⟨order, hp⟩ | ⟨e, hp⟩ <;> rw [hp]
  · exact .inr ⟨order, rfl, not_erroneous_of_plan_ok hp, (plan_ok hp).2.2.2.2.2.1⟩
  · exact .inl ⟨rfl, (erroneous_of_plan_error hp).resolve_left hreq⟩

theorem classify_erroneous_iff (ts : Table α) (req : List α) : classify ts req = .erroneous ↔ Erroneous ts req := by
  rcases classify_spec ts req with ⟨hc, he⟩ | ⟨sel, hc, hne, _⟩ <;> rw [hc]
  · exact ⟨fun _ => he, fun _ => rfl⟩
  · exact ⟨nofun, fun h => absurd h hne⟩

theorem classify_fine {ts : Table α} {req : List α} {sel : List α} (h : classify ts req = .fine sel) :
    ∀ n, n ∈ sel ↔ Reach ts req n := by
  rcases classify_spec ts req with ⟨hc, _⟩ | ⟨_, hc, _, hs⟩ <;> rw [hc] at h <;> cases h
  exact hs

theorem depsBeforeB_iff {ts : Table α} {calls : List α} :
    depsBeforeB ts calls = true ↔ ∀ b ∈ calls, ∀ a ∈ deps ts b, Before calls a b := by
  simp [depsBeforeB, Before]

theorem c03_iff_spec (ts : Table α) (req : List α) (fails : α → Bool) (obs : Obs α) :
    c03 ts req fails obs = true ↔ Spec ts req fails obs := by
  unfold c03 Spec
  rcases classify_spec ts req with ⟨hc, herr⟩ | ⟨sel, hc, hne, hsel⟩ <;> rw [hc]
  · simp only [Bool.and_eq_true, List.isEmpty_iff, Option.isSome_iff_ne_none]
    exact ⟨fun h => ⟨fun _ => h, fun hne => absurd herr hne⟩, fun h => h.1 herr⟩
  · -- with `Reach` read as membership in `sel` the two sides differ only in "some selected task fails, or …" against
    -- "if no selected task fails then …"
    simp only [← hsel, hne, false_imp_iff, not_false_eq_true, true_imp_iff, true_and, Bool.and_eq_true, Bool.or_eq_true,
      decide_eq_true_eq, List.all_eq_true, List.any_eq_true, depsBeforeB_iff, List.isEmpty_iff,
      Option.isNone_iff_eq_none, Classical.or_iff_not_imp_left, not_exists, not_and, Bool.not_eq_true, and_assoc]

/-- evaluates the model / the judge on a concrete spokfile: the closure through `closureN`, everything else by the kernel -/
macro "graph_eval" : tactic => `(tactic|
  (simp only [exec, c03, classify, plan_eq]; rw [closure_eq_closureN 32 (by decide +kernel)]; decide +kernel))

end Spok.Judge.Graph
