import Spok.Lemmas.LexRight
/-! # What one step of the lexer's state machine does: a specification per state function

Every state function has the same shape.  A *prefix action* (`skipWs`; `absorb` and `emit` of the spelled
token; a scanning loop and `emit`) leads to a mid state `l1`.  Then comes the *hand-over*: the function
looks at what follows (`peek`, `atEOL`, `next` then `backup`: the cursor does not move) and hands `l1`
over to a successor that will absorb the token it has seen, or — having read the first rune of an
identifier, string or command — to the successor that goes on with that token, or it ends the scan with
an ERROR or the EOF token.  `HandOver t l1 p` says this of the outcome `p` of the state function of `t`,
together with what the successor may rely on (`Enter`) and with the edge of the state graph that is taken
(`nextTags`).

`lexXxx_out : HandOver t l1 (lexXxx l)` is the one place where `lexXxx` is analysed for the invariants.
Whatever is kept along `L.ReadsTo` is kept by a hand-over, so each invariant of the machine needs one lemma about
`HandOver` (`HandOver.dec`, `.inv`, `.wfT`, `.livev`) and, per state function, the step over its prefix
action. -/
namespace Spok

variable {l : L} {t : Tag}

/-- the two ways an `if` has a given value: how the proofs below go through the branches of a state function -/
theorem ite_cases {α} {c : Prop} [Decidable c] {a b p : α} (h : (if c then a else b) = p) : c ∧ a = p ∨ ¬c ∧ b = p := by
  by_cases hc : c
  · exact Or.inl ⟨hc, by rwa [if_pos hc] at h⟩
  · exact Or.inr ⟨hc, by rwa [if_neg hc] at h⟩

/-! ## the state graph -/

/-- every tag the state function of `t` can hand over to (`Props/Facts.lean` compares the list with what
    the Go source of `lexXxx` returns) -/
def nextTags : Tag → List Tag
  | .start => [.hash, .taskKeyword, .ident, .done]
  | .hash => [.comment, .done]
  | .comment => [.start]
  | .taskKeyword => [.taskName, .done]
  | .leftParen => [.args, .done]
  | .rightParen => [.leftBrace, .outputOp, .start, .hash, .done]
  | .outputOp => [.string, .leftParen, .ident, .done]
  | .leftBrace => [.taskBody, .done]
  | .rightBrace => [.start, .done]
  | .taskBody => [.rightBrace, .taskCommands, .done]
  | .taskCommands => [.rightBrace, .done, .spin]
  | .taskName => [.leftParen, .done]
  | .ident => [.leftParen, .declare, .start, .rightParen, .comma, .leftBrace, .done]
  | .args => [.rightParen, .string, .ident, .comma, .leftBrace, .done]
  | .comma => [.string, .ident, .rightParen, .done]
  | .declare => [.declString, .ident, .done]
  | .string => [.start, .args, .done]
  | .declString => [.start, .done]
  | .done => [.done]
  | .spin => [.spin]

/-! ## the rune a state function looks at -/

theorem L.right_of_next (h : (l.next).2 ≠ eofRune) : l.right = (l.next).2 :: l.right.tail := by
  rw [L.next_snd] at h ⊢
  cases hr : l.right with
  | nil => rw [hr] at h; exact absurd rfl h
  | cons r rs => rfl

theorem L.right_of_next_cp {c : Nat} (h : ((l.next).2.cp == c) = true) (hc : c ≠ 0xFFFD) :
    l.right = (l.next).2 :: l.right.tail :=
  L.right_of_next fun he => hc (by rw [he] at h; exact (by simpa [eofRune] using h : (0xFFFD : Nat) = c).symm)

theorem L.right_of_next_ident (h : isIdent (l.next).2 = true) : l.right = (l.next).2 :: l.right.tail :=
  L.right_of_next fun he => by rw [he, isIdent_eofRune] at h; cases h

theorem L.hasPrefix_of_next {c : Nat} (h : ((l.next).2.cp == c) = true) (hc : c ≠ 0xFFFD) :
    l.hasPrefix [c] = true := by
  rw [L.hasPrefix, L.right_of_next_cp h hc]; simpa using h

theorem L.right_ne_nil_of_hasPrefix {c : Nat} {s : List Nat} (h : l.hasPrefix (c :: s) = true) : l.right ≠ [] := by
  intro hr; simp [L.hasPrefix, hr] at h

namespace L.ReadsTo
variable {m : L} {r : Rune} {rs : List Rune}

theorem look (h : l.ReadsTo [] m) : l.ReadsTo [] (m.peek).1 := h.trans (.peek m)

theorem take (h : l.ReadsTo [] m) (hr : l.right = r :: rs) : l.ReadsTo [r] (m.next).1 :=
  h.trans (.next (hr ▸ h.right.symm))

theorem hasPrefix (h : l.ReadsTo [] m) (s : List Nat) : m.hasPrefix s = l.hasPrefix s :=
  L.hasPrefix_congr h.right.symm s

theorem hasPrefix_of_peek {c : Nat} (h : l.ReadsTo [] m) (hp : ((m.peek).2.cp == c) = true) (hc : c ≠ 0xFFFD) :
    l.hasPrefix [c] = true := by
  rw [← h.hasPrefix]; exact L.hasPrefix_of_next hp hc

end L.ReadsTo

/-! ## what a state function may rely on when it is entered -/

/-- the text a state function `absorb`s unseen: its predecessor has seen it -/
def Tag.spell : Tag → List Nat
  | .hash => [HASH]
  | .taskKeyword => [116, 97, 115, 107]
  | .leftParen => [LPAREN]
  | .rightParen => [RPAREN]
  | .outputOp => [MINUS, GT]
  | .leftBrace => [LBRACE]
  | .rightBrace => [RBRACE]
  | .comma => [COMMA]
  | .declare => [COLON, EQUALS]
  | _ => []

/-- the state function goes on with a token whose first rune its predecessor has read -/
def Tag.cont : Tag → Bool
  | .ident | .string | .declString | .taskCommands => true
  | _ => false

/-- the rune read on behalf of the successor -/
def Taken (r : Rune) : Tag → Prop
  | .ident => isIdent r = true
  | .string | .declString => r.cp = QUOTE
  | .taskCommands => isLetter r = true
  | _ => False

/-- what the predecessor has established: the spelled token is next and nothing is pending, or exactly the
    first rune of the token is pending -/
def Enter (l : L) (t : Tag) : Prop :=
  l.hasPrefix t.spell = true ∧ if t.cont then ∃ r, l.tokRev = [r] ∧ Taken r t else l.tokRev = []

theorem Enter.nil (h : Enter l t) (hc : t.cont = false := by rfl) : l.tokRev = [] := by
  have := h.2; rwa [hc] at this

/-- the state functions that can end the scan with an ERROR token (an ERROR never follows HASH or TASK
    directly: `lexHash`, `lexTaskKeyword` are not among them) -/
def Tag.fails : Tag → Bool
  | .hash | .comment | .taskKeyword | .leftParen | .leftBrace | .rightBrace | .done | .spin => false
  | _ => true

theorem Taken.cont {r : Rune} (h : Taken r t) : t.cont = true := by
  cases t <;> first | rfl | exact h.elim
theorem Taken.spell {r : Rune} (h : Taken r t) : t.spell = [] := by
  cases t <;> first | rfl | exact h.elim
theorem Taken.final {r : Rune} (h : Taken r t) : t.final = false := by
  cases t <;> first | rfl | exact h.elim

/-! ## the hand-over -/

inductive HandOver (t : Tag) (l : L) : L × Tag → Prop
  /-- to a successor that absorbs its token itself.  The cursor has not moved; `t'` is a successor in the graph, not
      final, and starts a token of its own (a finite check); its spelling is ahead; nothing is pending -/
  | stay {l' : L} {t' : Tag} : l.ReadsTo [] l' → t' ∈ nextTags t ∧ t'.final = false ∧ t'.cont = false →
      l.hasPrefix t'.spell = true → l.tokRev = [] → HandOver t l (l', t')
  /-- to a successor that goes on with a token.  Its first rune `r` has been read; `t'` is a successor in the graph;
      nothing was pending before `r`; `r` is a rune `t'` may be entered with -/
  | take {l' : L} {t' : Tag} {r : Rune} : l.ReadsTo [r] l' → t' ∈ nextTags t → l.tokRev = [] → Taken r t' →
      HandOver t l (l', t')
  /-- the ERROR token, from wherever the state function has read to; `t` is a state function that can fail -/
  | error {xs : List Rune} {l' : L} : l.ReadsTo xs l' → t.fails = true → HandOver t l l'.error
  /-- the EOF token: `lexStart`, nothing pending, at the end of the input -/
  | eof {l' : L} : l.ReadsTo [] l' → t = .start → l.tokRev = [] → l.right = [] → HandOver t l (l'.emit .eof, .done)

theorem done_mem_nextTags (h : t.fails = true) : Tag.done ∈ nextTags t := by
  cases t <;> first | decide | cases h

namespace HandOver
variable {p : L × Tag}

theorem tag_mem (h : HandOver t l p) : p.2 ∈ nextTags t := by
  cases h with
  | stay _ h => exact h.1
  | take _ h => exact h
  | error _ h => exact done_mem_nextTags h
  | eof _ h => subst h; simp [nextTags]

theorem enter (h : HandOver t l p) (hf : p.2.final = false) : Enter p.1 p.2 := by
  cases h with
  | stay hl he hp ht => exact ⟨by rw [hl.hasPrefix]; exact hp, by rw [he.2.2]; simpa [hl.tokRev] using ht⟩
  | @take l' t' r hl _ ht hk =>
    exact ⟨by rw [hk.spell]; rfl, by rw [hk.cont]; exact ⟨r, by simp [hl.tokRev, ht], hk⟩⟩
  | error | eof => cases hf

theorem text (h : HandOver t l p) (hf : p.2.final = false) : p.1.tokRev.reverse ++ p.1.right = l.right := by
  cases h with
  | stay hl _ _ ht => rw [hl.tokRev, ht, hl.right]; rfl
  | take hl _ ht => rw [hl.tokRev, ht, hl.right]; simp
  | error | eof => cases hf

theorem done_of_nil (h : HandOver t l p) (hr : l.right = [])
    (hs : ∀ t' ∈ nextTags t, t'.final = false → t'.cont = false → t'.spell ≠ []) : p.2 = .done := by
  cases h with
  | @stay l' t' _ he hp =>
    cases hsp : t'.spell with
    | nil => exact absurd hsp (hs t' he.1 he.2.1 he.2.2)
    | cons c s => rw [hsp] at hp; exact absurd hr (L.right_ne_nil_of_hasPrefix hp)
  | take hl => rw [hl.right] at hr; cases hr
  | error | eof => rfl

end HandOver

/-! ## the state functions -/

/-- `lexStart` tests for the keyword before it tests for an identifier -/
theorem lexStart_out : HandOver .start (skipWs l) (lexStart l) ∧
    ((lexStart l).2 = .ident → (skipWs l).hasPrefix [116, 97, 115, 107] = false) := by
  have ht := skipWs_tokRev l
  generalize hp : lexStart l = p
  unfold lexStart at hp
  generalize skipWs l = l1 at ht hp ⊢
  simp only [] at hp
  obtain ⟨hc, rfl⟩ | ⟨-, hp⟩ := ite_cases hp
  · exact ⟨.stay (.refl _) (by decide) hc ht, nofun⟩
  obtain ⟨hc, rfl⟩ | ⟨hk, hp⟩ := ite_cases hp
  · exact ⟨.stay (.refl _) (by decide) hc ht, nofun⟩
  obtain ⟨hi, rfl⟩ | ⟨-, hp⟩ := ite_cases hp
  · exact ⟨.take ((L.ReadsTo.peek l1).take (L.right_of_next_ident hi)) (by decide) ht hi, fun _ => by simpa using hk⟩
  obtain ⟨he, rfl⟩ | ⟨-, rfl⟩ := ite_cases hp
  · exact ⟨.eof (.peek _) rfl ht (by simpa using he), nofun⟩
  · exact ⟨.error (.peek l1) rfl, nofun⟩

theorem lexHash_out (h : l.right ≠ []) : HandOver .hash ((l.absorb 1).emit .hash) (lexHash l) := by
  rw [lexHash, if_neg (by simpa using h)]
  exact .stay (.refl _) (by decide) rfl rfl

theorem lexComment_out : HandOver .comment ((scanComment l).emit .comment) (lexComment l) :=
  .stay (.refl _) (by decide) rfl rfl

theorem lexTaskKeyword_out (h : l.right ≠ []) :
    HandOver .taskKeyword (skipWs ((l.absorb 4).emit .task)) (lexTaskKeyword l) := by
  rw [lexTaskKeyword, if_neg (by simpa using h)]
  exact .stay (.refl _) (by decide) rfl (skipWs_tokRev _)

theorem lexLeftParen_out (h : l.right ≠ []) :
    HandOver .leftParen (skipWs ((l.absorb 1).emit .lparen)) (lexLeftParen l) := by
  rw [lexLeftParen, if_neg (by simpa using h)]
  exact .stay (.refl _) (by decide) rfl (skipWs_tokRev _)

theorem lexLeftBrace_out (h : l.right ≠ []) :
    HandOver .leftBrace (skipWs ((l.absorb 1).emit .lbrace)) (lexLeftBrace l) := by
  rw [lexLeftBrace, if_neg (by simpa using h)]
  exact .stay (.refl _) (by decide) rfl (skipWs_tokRev _)

theorem lexRightBrace_out (h : l.right ≠ []) : HandOver .rightBrace ((l.absorb 1).emit .rbrace) (lexRightBrace l) := by
  rw [lexRightBrace, if_neg (by simpa using h)]
  exact .stay (.refl _) (by decide) rfl rfl

theorem lexRightParen_out (h : l.right ≠ []) :
    HandOver .rightParen (skipWs ((l.absorb 1).emit .rparen)) (lexRightParen l) := by
  have ht := skipWs_tokRev ((l.absorb 1).emit .rparen)
  generalize hp : lexRightParen l = p
  unfold lexRightParen at hp
  rw [if_neg (by simpa using h)] at hp
  generalize skipWs ((l.absorb 1).emit .rparen) = l1 at ht hp ⊢
  simp only [L.atEOL_fst] at hp
  have l2 := L.ReadsTo.peek l1
  obtain ⟨hc, rfl⟩ | ⟨-, hp⟩ := ite_cases hp
  · exact .stay l2 (by decide) (L.hasPrefix_of_next hc (by decide)) ht
  obtain ⟨hc, rfl⟩ | ⟨-, hp⟩ := ite_cases hp
  · exact .stay l2 (by decide) (by rw [← l2.hasPrefix]; exact hc) ht
  obtain ⟨-, rfl⟩ | ⟨-, hp⟩ := ite_cases hp
  · exact .stay l2.look (by decide) rfl ht
  obtain ⟨hc, rfl⟩ | ⟨-, rfl⟩ := ite_cases hp
  · exact .stay l2.look (by decide) (L.hasPrefix_of_next hc (by decide)) ht
  · exact .error l2.look rfl

theorem lexOutputOp_out (h : l.right ≠ []) :
    HandOver .outputOp (skipWs ((l.absorb 2).emit .output)) (lexOutputOp l) := by
  have ht := skipWs_tokRev ((l.absorb 2).emit .output)
  generalize hp : lexOutputOp l = p
  unfold lexOutputOp at hp
  rw [if_neg (by simpa using h)] at hp
  generalize skipWs ((l.absorb 2).emit .output) = l1 at ht hp ⊢
  simp only [L.next_backup] at hp
  obtain ⟨hc, rfl⟩ | ⟨-, hp⟩ := ite_cases hp
  · exact .take (.next (L.right_of_next_cp hc (by decide))) (by decide) ht (by simpa [Taken] using hc)
  obtain ⟨hc, rfl⟩ | ⟨-, hp⟩ := ite_cases hp
  · exact .stay (.peek l1) (by decide) (L.hasPrefix_of_next hc (by decide)) ht
  obtain ⟨hi, rfl⟩ | ⟨-, hp⟩ := ite_cases hp
  · exact .take (.next (L.right_of_next_ident hi)) (by decide) ht hi
  obtain ⟨-, rfl⟩ | ⟨-, hp⟩ := ite_cases hp
  · exact .error (.peek l1) rfl
  obtain ⟨-, rfl⟩ | ⟨-, rfl⟩ := ite_cases hp
  · exact .error (.next_any l1) rfl
  · exact .error (.peek l1) rfl

/-- at the end of the input `lexTaskBody` fails where it stands, otherwise after skipping white space -/
theorem lexTaskBody_out : ∃ l1, (l1 = l ∨ l1 = skipWs l) ∧ HandOver .taskBody l1 (lexTaskBody l) := by
  have ht := skipWs_tokRev l
  generalize hp : lexTaskBody l = p
  unfold lexTaskBody at hp
  obtain ⟨-, rfl⟩ | ⟨-, hp⟩ := ite_cases hp
  · exact ⟨l, Or.inl rfl, .error (.refl l) rfl⟩
  refine ⟨_, Or.inr rfl, ?_⟩
  generalize skipWs l = l1 at ht hp ⊢
  simp only [L.next_backup] at hp
  obtain ⟨hc, rfl⟩ | ⟨-, hp⟩ := ite_cases hp
  · exact .stay (.peek l1) (by decide) (L.hasPrefix_of_next hc (by decide)) ht
  obtain ⟨hi, rfl⟩ | ⟨-, rfl⟩ := ite_cases hp
  · exact .take (.next (L.right_of_next fun he => by rw [he, isLetter_eofRune] at hi; cases hi)) (by decide) ht hi
  · exact .error (.next_any l1) rfl

theorem lexTaskName_out : HandOver .taskName (skipWs ((scanIdent l).emit .ident)) (lexTaskName l) := by
  have ht := skipWs_tokRev ((scanIdent l).emit .ident)
  generalize hp : lexTaskName l = p
  unfold lexTaskName at hp
  generalize skipWs ((scanIdent l).emit .ident) = l1 at ht hp ⊢
  simp only [] at hp
  obtain ⟨-, rfl⟩ | ⟨hc, rfl⟩ := ite_cases hp
  · exact .error (.peek l1) rfl
  · exact .stay (.peek l1) (by decide)
      ((L.ReadsTo.refl l1).hasPrefix_of_peek (c := LPAREN) (by simpa using hc) (by decide)) ht

/-- `lexIdent` has skipped the line end together with the white space, so it goes back to `lexStart` only
    at the end of the input -/
theorem lexIdent_out : HandOver .ident (skipWs ((scanIdent l).emit .ident)) (lexIdent l) ∧
    ((lexIdent l).2 = .start → (skipWs ((scanIdent l).emit .ident)).right = []) := by
  have ht := skipWs_tokRev ((scanIdent l).emit .ident)
  have hh := startsEol_skipWs ((scanIdent l).emit .ident)
  generalize hp : lexIdent l = p
  unfold lexIdent at hp
  generalize skipWs ((scanIdent l).emit .ident) = l1 at ht hh hp ⊢
  simp only [] at hp
  have l2 := L.ReadsTo.peek l1
  have l3 : l1.ReadsTo [] ((l1.peek).1.atEOL).1 := l2.look
  obtain ⟨hc, rfl⟩ | ⟨-, hp⟩ := ite_cases hp
  · exact ⟨.stay l2 (by decide) (L.hasPrefix_of_next hc (by decide)) ht, nofun⟩
  obtain ⟨hc, rfl⟩ | ⟨-, hp⟩ := ite_cases hp
  · exact ⟨.stay l2 (by decide) (by rw [← l2.hasPrefix]; exact hc) ht, nofun⟩
  obtain ⟨he, rfl⟩ | ⟨-, hp⟩ := ite_cases hp
  · exact ⟨.stay l3 (by decide) rfl ht, fun _ => by simpa [hh] using he⟩
  obtain ⟨hc, rfl⟩ | ⟨-, hp⟩ := ite_cases hp
  · exact ⟨.stay l3.look (by decide) (l3.hasPrefix_of_peek hc (by decide)) ht, nofun⟩
  obtain ⟨hc, rfl⟩ | ⟨-, hp⟩ := ite_cases hp
  · exact ⟨.stay l3.look (by decide) (l3.hasPrefix_of_peek hc (by decide)) ht, nofun⟩
  obtain ⟨hc, rfl⟩ | ⟨-, rfl⟩ := ite_cases hp
  · exact ⟨.stay l3.look (by decide) (l3.hasPrefix_of_peek hc (by decide)) ht, nofun⟩
  · exact ⟨.error l3.look rfl, nofun⟩

theorem lexArgs_out : HandOver .args (skipWs l) (lexArgs l) := by
  have ht := skipWs_tokRev l
  generalize hp : lexArgs l = p
  unfold lexArgs at hp
  generalize skipWs l = l1 at ht hp ⊢
  simp only [L.next_backup] at hp
  obtain ⟨hc, rfl⟩ | ⟨-, hp⟩ := ite_cases hp
  · exact .stay (.peek l1) (by decide) (L.hasPrefix_of_next hc (by decide)) ht
  obtain ⟨hc, rfl⟩ | ⟨-, hp⟩ := ite_cases hp
  · exact .take (.next (L.right_of_next_cp hc (by decide))) (by decide) ht (by simpa [Taken] using hc)
  obtain ⟨hi, rfl⟩ | ⟨-, hp⟩ := ite_cases hp
  · exact .take (.next (L.right_of_next_ident hi)) (by decide) ht hi
  obtain ⟨hc, rfl⟩ | ⟨-, hp⟩ := ite_cases hp
  · exact .stay (.peek l1) (by decide) (L.hasPrefix_of_next hc (by decide)) ht
  obtain ⟨hc, rfl⟩ | ⟨-, rfl⟩ := ite_cases hp
  · exact .stay (.peek l1) (by decide) (L.hasPrefix_of_next hc (by decide)) ht
  · exact .error (.next_any l1) rfl

theorem lexComma_out (h : l.right ≠ []) : HandOver .comma (skipWs ((l.absorb 1).emit .comma)) (lexComma l) := by
  have ht := skipWs_tokRev ((l.absorb 1).emit .comma)
  generalize hp : lexComma l = p
  unfold lexComma at hp
  rw [if_neg (by simpa using h)] at hp
  generalize skipWs ((l.absorb 1).emit .comma) = l1 at ht hp ⊢
  simp only [L.next_backup] at hp
  obtain ⟨hc, rfl⟩ | ⟨-, hp⟩ := ite_cases hp
  · exact .take (.next (L.right_of_next_cp hc (by decide))) (by decide) ht (by simpa [Taken] using hc)
  obtain ⟨hi, rfl⟩ | ⟨-, hp⟩ := ite_cases hp
  · exact .take (.next (L.right_of_next_ident hi)) (by decide) ht hi
  obtain ⟨hc, rfl⟩ | ⟨-, rfl⟩ := ite_cases hp
  · exact .stay (.peek l1) (by decide) (L.hasPrefix_of_next hc (by decide)) ht
  · exact .error (.peek l1) rfl

/-- `lexDeclare` skips white space first (entered in front of `:=`, that moves nothing:
    `skipWs_right_of_hasPrefix`) -/
theorem lexDeclare_out (h : (skipWs l).right ≠ []) :
    HandOver .declare (skipWs (((skipWs l).absorb 2).emit .declare)) (lexDeclare l) := by
  have ht := skipWs_tokRev (((skipWs l).absorb 2).emit .declare)
  generalize hp : lexDeclare l = p
  unfold lexDeclare at hp
  rw [if_neg (by simpa using h)] at hp
  generalize skipWs (((skipWs l).absorb 2).emit .declare) = l1 at ht hp ⊢
  simp only [L.next_backup] at hp
  obtain ⟨hc, rfl⟩ | ⟨-, hp⟩ := ite_cases hp
  · exact .take (.next (L.right_of_next_cp hc (by decide))) (by decide) ht (by simpa [Taken] using hc)
  obtain ⟨hi, rfl⟩ | ⟨-, rfl⟩ := ite_cases hp
  · exact .take (.next (L.right_of_next_ident hi)) (by decide) ht hi
  · exact .error (.peek l1) rfl

/-- an unterminated string ends the scan from the state `scanString` reports; a terminated one is emitted
    and handed over -/
theorem lexString_out : (∃ l', scanString l = .error l' ∧ lexString l = l'.error) ∨
    ∃ l', scanString l = .ok l' ∧ HandOver .string (l'.emit .string) (lexString l) := by
  unfold lexString
  split
  · next l' h => exact Or.inl ⟨l', h, rfl⟩
  · next l' h =>
    refine Or.inr ⟨l', h, ?_⟩
    have ht : (l'.emit .string).tokRev = [] := rfl
    generalize l'.emit .string = l1 at ht ⊢
    simp only []
    split
    · exact .stay (.refl _) (by decide) rfl ht
    · split
      · exact .stay (.peek l1) (by decide) rfl ht
      · exact .stay (.peek l1) (by decide) rfl ht

/-- the tail of `lexDeclString`, from the emitted STRING token on: the rest of the line must be blank -/
def declTail (l : L) : L := (skipBlanks (if l.atEOF then l else (l.atEOL).1)).discard

theorem declTail_reads (l : L) : ∃ m, l.ReadsTo (l.right.takeWhile isBlank) m ∧ declTail l = m.discard := by
  have r : l.ReadsTo [] (if l.atEOF then l else (l.atEOL).1) := by
    split
    · exact .refl l
    · exact .peek l
  refine ⟨_, ?_, rfl⟩
  have e : (if l.atEOF then l else (l.atEOL).1).right = l.right := r.right.symm
  exact e ▸ r.trans (skipBlanks_reads _)

theorem lexDeclString_out : (∃ l', scanString l = .error l' ∧ lexDeclString l = l'.error) ∨
    ∃ l', scanString l = .ok l' ∧ HandOver .declString (declTail (l'.emit .string)) (lexDeclString l) := by
  unfold lexDeclString
  split
  · next l' h => exact Or.inl ⟨l', h, rfl⟩
  · next l' h =>
    refine Or.inr ⟨l', h, ?_⟩
    have ht : (declTail (l'.emit .string)).tokRev = [] := rfl
    simp only [declTail] at ht ⊢
    generalize (skipBlanks _).discard = l1 at ht ⊢
    split
    · exact .stay (.refl _) (by decide) rfl ht
    · split
      · exact .stay (.peek l1) (by decide) rfl ht
      · exact .error (.peek l1) rfl

end Spok
