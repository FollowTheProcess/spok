/-! # Facts about lists that core Lean lacks: a duplicate-free list extended at the end, the entry of a key in an
association list with distinct keys, and the least element satisfying a test in a list sorted by a strict order. -/
namespace Spok

theorem nodup_concat {α} {l : List α} {x : α} : (l ++ [x]).Nodup ↔ l.Nodup ∧ x ∉ l := by
  rw [List.nodup_append]
  exact ⟨fun h => ⟨h.1, fun hx => h.2.2 x hx x (List.mem_singleton.2 rfl) rfl⟩,
    fun h => ⟨h.1, List.nodup_cons.2 ⟨List.not_mem_nil, List.nodup_nil⟩,
      fun a ha b hb hab => h.2 (List.mem_singleton.1 hb ▸ hab ▸ ha)⟩⟩

theorem find?_key_of_mem {κ β} [BEq κ] [LawfulBEq κ] {l : List (κ × β)} {k : κ} {v : β} (hn : (l.map Prod.fst).Nodup)
    (h : (k, v) ∈ l) : l.find? (·.1 == k) = some (k, v) := by
  induction l with
  | nil => cases h
  | cons p rest ih =>
    rw [List.map_cons, List.nodup_cons] at hn
    rw [List.find?_cons]
    rcases List.mem_cons.1 h with rfl | h
    · simp
    · have : (p.1 == k) = false := beq_false_of_ne fun e => hn.1 (e ▸ List.mem_map.2 ⟨_, h, rfl⟩)
      rw [this]; exact ih hn.2 h

theorem find?_key_reverse_of_mem {κ β} [BEq κ] [LawfulBEq κ] {l : List (κ × β)} {k : κ} {v : β}
    (hn : (l.map Prod.fst).Nodup) (h : (k, v) ∈ l) : l.reverse.find? (·.1 == k) = some (k, v) :=
  find?_key_of_mem (by rw [List.map_reverse]; exact (List.reverse_perm _).nodup_iff.2 hn) (List.mem_reverse.2 h)

theorem find?_key_eq_none {κ β} [BEq κ] [LawfulBEq κ] {l : List (κ × β)} {k : κ} (h : k ∉ l.map Prod.fst) :
    l.find? (·.1 == k) = none :=
  List.find?_eq_none.2 fun x hx hk => h (List.mem_map.2 ⟨x, hx, by simpa using hk⟩)

theorem find?_eq_some_iff_of_pairwise {α} {R : α → α → Prop} {p : α → Bool} {l : List α} {b : α}
    (hl : l.Pairwise R) (hasym : ∀ a b, R a b → ¬ R b a) :
    l.find? p = some b ↔ b ∈ l ∧ p b = true ∧ ∀ a ∈ l, R a b → p a = false := by
  induction l with
  | nil => simp
  | cons x xs ih =>
    obtain ⟨hx, hxs⟩ := List.pairwise_cons.1 hl
    rw [List.find?_cons]
    cases hpx : p x with
    | true =>
      simp only [List.forall_mem_cons]
      simp only [Option.some.injEq, List.mem_cons]
      constructor
      · rintro rfl
        exact ⟨Or.inl rfl, hpx, fun h => absurd h (hasym _ _ h), fun a ha h => absurd (hx a ha) (hasym _ _ h)⟩
      · rintro ⟨rfl | hb, _, h, _⟩
        · rfl
        · rw [h (hx b hb)] at hpx; cases hpx
    | false =>
      simp only [List.forall_mem_cons]
      simp only [ih hxs, List.mem_cons]
      constructor
      · rintro ⟨hb, hp, h⟩; exact ⟨Or.inr hb, hp, fun _ => hpx, h⟩
      · rintro ⟨rfl | hb, hp, _, h⟩
        · rw [hp] at hpx; cases hpx
        · exact ⟨hb, hp, h⟩

end Spok
