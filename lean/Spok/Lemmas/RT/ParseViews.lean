import Spok.Lemmas.RT.Defs
/-! # Round trip: the parser on token lists whose views are known

The parser only looks at `Tok.ty` and `Tok.val` on its success paths.  So for a token list `ts` with
`ts.map view = vs` and `vs` one of the shapes of `Lemmas/RT/Defs.lean` (`ItemViews`, `ParenViews`,
`OutsViews`, `StmtViews`) the parse functions return the structure the views were made from.

One hypothesis is needed that the view relations do not carry: a string argument `.str s` is recovered
from its token `"s"` by `stripQuotes`, which removes *every* quote; so `s` itself must not contain one
(`Arg.NQ`, `Node.NQ`; it follows from `StrOK s`, see `Assemble.lean`). -/
namespace Spok

/-! ## quote-freeness -/

def Arg.NQ : Arg → Prop
  | .str s => ∀ r ∈ s, r.cp ≠ QUOTE
  | .ident _ => True

def ArgsNQ (as : List Arg) : Prop := ∀ a ∈ as, a.NQ

def Val.NQ : Val → Prop
  | .str s => ∀ r ∈ s, r.cp ≠ QUOTE
  | .ident _ => True
  | .call _ args => ArgsNQ args

def Node.NQ : Node → Prop
  | .comment _ => True
  | .assign _ v => v.NQ
  | .task _ _ deps outs _ => ArgsNQ deps ∧ ArgsNQ outs

theorem ArgsNQ.head {a : Arg} {as : List Arg} (h : ArgsNQ (a :: as)) : a.NQ := h a (by simp)
theorem ArgsNQ.tail {a : Arg} {as : List Arg} (h : ArgsNQ (a :: as)) : ArgsNQ as :=
  fun b hb => h b (by simp [hb])

/-- stated with the text in the form `simp` brings it to -/
theorem stripQuotes_quoted {s : List Rune} (h : ∀ r ∈ s, r.cp ≠ QUOTE) :
    stripQuotes (asc QUOTE :: (s ++ [asc QUOTE])) = s := by
  have h1 : s.filter (fun r => r.cp != QUOTE) = s := by
    rw [List.filter_eq_self]; intro r hr; simpa using h r hr
  simp [stripQuotes, List.filter_append, asc, h1]

/-! ## destructuring a token list by its views -/

theorem map_view_cons {ts : List Tok} {v : View} {vs : List View} (h : ts.map view = v :: vs) :
    ∃ t ts', ts = t :: ts' ∧ t.ty = v.1 ∧ t.val = v.2 ∧ ts'.map view = vs := by
  cases ts with
  | nil => simp at h
  | cons t ts' =>
    simp only [List.map_cons, List.cons.injEq] at h
    refine ⟨t, ts', rfl, ?_, ?_, h.2⟩
    · rw [← h.1]; rfl
    · rw [← h.1]; rfl

/-! ## argument lists -/

theorem parseArgList_rparen (c : PCtx) {t : Tok} (ht : t.ty = .rparen) (ts : List Tok) (acc : List Arg) :
    parseArgList c (t :: ts) acc = .ok (acc.reverse, ts) := by
  simp only [parseArgList, ht]

theorem parseArgList_comma (c : PCtx) {t : Tok} (ht : t.ty = .comma) (ts : List Tok) (acc : List Arg) :
    parseArgList c (t :: ts) acc = parseArgList c ts acc := by
  simp only [parseArgList, ht]

theorem parseArgList_arg (c : PCtx) {a : Arg} (ha : a.NQ) {t : Tok} (hty : t.ty = (argView a).1)
    (hval : t.val = (argView a).2) (ts : List Tok) (acc : List Arg) :
    parseArgList c (t :: ts) acc = parseArgList c ts (a :: acc) := by
  cases a with
  | str s =>
    simp only [argView] at hty hval
    simp only [parseArgList, hty, hval, List.cons_append, stripQuotes_quoted ha]
  | ident n =>
    simp only [argView] at hty hval
    simp only [parseArgList, hty, hval]

theorem parseArgList_items (c : PCtx) {args : List Arg} {iv : List View} (h : ItemViews args iv) :
    ArgsNQ args → ∀ (items : List Tok) (tR : Tok) (rest : List Tok) (acc : List Arg),
    items.map view = iv → tR.ty = .rparen →
    parseArgList c (items ++ tR :: rest) acc = .ok (acc.reverse ++ args, rest) := by
  induction h with
  | last a =>
    intro hq items tR rest acc hv hR
    obtain ⟨t, ts', rfl, hty, hval, hv'⟩ := map_view_cons hv
    cases List.map_eq_nil_iff.mp hv'
    simp only [List.cons_append, List.nil_append]
    rw [parseArgList_arg c hq.head hty hval, parseArgList_rparen c hR]
    simp
  | lastComma a =>
    intro hq items tR rest acc hv hR
    obtain ⟨t, ts', rfl, hty, hval, hv'⟩ := map_view_cons hv
    obtain ⟨t2, ts'', rfl, hty2, _, hv''⟩ := map_view_cons hv'
    cases List.map_eq_nil_iff.mp hv''
    simp only [List.cons_append, List.nil_append]
    rw [parseArgList_arg c hq.head hty hval, parseArgList_comma c (by simpa [vComma] using hty2),
      parseArgList_rparen c hR]
    simp
  | cons a as vs _ ih =>
    intro hq items tR rest acc hv hR
    obtain ⟨t, ts', rfl, hty, hval, hv'⟩ := map_view_cons hv
    obtain ⟨t2, ts'', rfl, hty2, _, hv''⟩ := map_view_cons hv'
    simp only [List.cons_append]
    rw [parseArgList_arg c hq.head hty hval, parseArgList_comma c (by simpa [vComma] using hty2),
      ih hq.tail ts'' tR rest (a :: acc) hv'' hR]
    simp

theorem parse_paren (c : PCtx) {args : List Arg} {pv : List View} (h : ParenViews args pv) (hq : ArgsNQ args)
    (ts rest : List Tok) (hv : ts.map view = pv) :
    ∃ tL ts', ts = tL :: ts' ∧ tL.ty = .lparen ∧ parseArgList c (ts' ++ rest) [] = .ok (args, rest) := by
  rcases h with ⟨rfl, rfl⟩ | ⟨iv, hi, rfl⟩
  · obtain ⟨tL, ts', rfl, hty, _, hv'⟩ := map_view_cons hv
    obtain ⟨tR, ts'', rfl, hty2, _, hv''⟩ := map_view_cons hv'
    cases List.map_eq_nil_iff.mp hv''
    refine ⟨tL, [tR], rfl, by simpa [vLParen] using hty, ?_⟩
    simp only [List.cons_append, List.nil_append]
    rw [parseArgList_rparen c (by simpa [vRParen] using hty2)]
    simp
  · obtain ⟨tL, ts', rfl, hty, _, hv'⟩ := map_view_cons hv
    obtain ⟨items, tb, rfl, hvi, hvb⟩ := List.map_eq_append_iff.mp hv'
    obtain ⟨tR, ts'', rfl, hty2, _, hv''⟩ := map_view_cons hvb
    cases List.map_eq_nil_iff.mp hv''
    refine ⟨tL, items ++ [tR], rfl, by simpa [vLParen] using hty, ?_⟩
    have := parseArgList_items c hi hq items tR rest [] hvi (by simpa [vRParen] using hty2)
    simpa using this

/-! ## the pieces of a task -/

theorem expect_ok (c : PCtx) {ty : TT} {t : Tok} (ht : t.ty = ty) (hne : ty ≠ .error) (ts : List Tok) :
    expect c ty (t :: ts) = .ok ts := by
  simp [expect, pnext, ht, hne]

theorem parseOutputs_views (c : PCtx) {outs : List Arg} {ov : List View} (h : OutsViews outs ov) (hq : ArgsNQ outs)
    (ts : List Tok) (hv : ts.map view = ov) (tB : Tok) (htB : tB.ty = .lbrace) (rest : List Tok) :
    parseOutputs c (ts ++ tB :: rest) = .ok (outs, tB :: rest) := by
  rcases h with ⟨rfl, rfl⟩ | ⟨a, rfl, rfl⟩ | ⟨_, pv, hp, rfl⟩
  · cases List.map_eq_nil_iff.mp hv
    simp [parseOutputs, htB]
  · obtain ⟨tO, ts', rfl, hty, _, hv'⟩ := map_view_cons hv
    obtain ⟨tA, ts'', rfl, hty2, hval2, hv''⟩ := map_view_cons hv'
    cases List.map_eq_nil_iff.mp hv''
    have hO : tO.ty = .output := by simpa [vOutput] using hty
    have ha := hq.head
    cases a with
    | str s =>
      simp only [argView] at hty2 hval2
      simp [parseOutputs, hO, pnext, hty2, hval2, stripQuotes_quoted ha]
    | ident n =>
      simp only [argView] at hty2 hval2
      simp [parseOutputs, hO, pnext, hty2, hval2]
  · obtain ⟨tO, ts', rfl, hty, _, hv'⟩ := map_view_cons hv
    have hO : tO.ty = .output := by simpa [vOutput] using hty
    obtain ⟨tL, ts'', rfl, hL, hpa⟩ := parse_paren c hp hq ts' (tB :: rest) hv'
    simp [parseOutputs, hO, pnext, hL, hpa]

theorem parseCommands_views (c : PCtx) : ∀ (cmds : List (List Rune)) (ts : List Tok),
    ts.map view = cmds.map (fun c => (TT.command, c)) → ∀ (tR : Tok), tR.ty = .rbrace →
    ∀ (rest : List Tok) (acc : List (List Rune)),
    parseCommands c (ts ++ tR :: rest) acc = .ok (acc.reverse ++ cmds, rest) := by
  intro cmds
  induction cmds with
  | nil =>
    intro ts hv tR hR rest acc
    cases List.map_eq_nil_iff.mp hv
    simp [parseCommands, hR]
  | cons cm cmds ih =>
    intro ts hv tR hR rest acc
    obtain ⟨t, ts', rfl, hty, hval, hv'⟩ := map_view_cons hv
    simp only [List.cons_append]
    rw [parseCommands]
    simp only [hty, hval]
    rw [ih ts' hv' tR hR rest (cm :: acc)]
    simp

theorem parseTask_views (c : PCtx) (doc : List Rune) {name : List Rune} {deps outs : List Arg} {cmds : List (List Rune)}
    {pv ov : List View} (hp : ParenViews deps pv) (ho : OutsViews outs ov) (hqd : ArgsNQ deps) (hqo : ArgsNQ outs)
    (ts : List Tok)
    (hv : ts.map view = (.ident, name) :: pv ++ ov ++ vLBrace :: cmds.map (fun c => (TT.command, c)) ++ [vRBrace])
    (rest : List Tok) :
    parseTask c doc (ts ++ rest) = .ok (.task name doc deps outs cmds, rest) := by
  have hv1 : ts.map view = (.ident, name) :: (pv ++ (ov ++ (vLBrace :: (cmds.map (fun c => (TT.command, c)) ++ [vRBrace])))) := by
    rw [hv]; simp
  obtain ⟨tN, ts1, rfl, _, hname, hv2⟩ := map_view_cons hv1
  obtain ⟨tp, ts2, rfl, hvp, hv3⟩ := List.map_eq_append_iff.mp hv2
  obtain ⟨to, ts3, rfl, hvo, hv4⟩ := List.map_eq_append_iff.mp hv3
  obtain ⟨tB, ts4, rfl, htB, _, hv5⟩ := map_view_cons hv4
  obtain ⟨tc, ts5, rfl, hvc, hv6⟩ := List.map_eq_append_iff.mp hv5
  obtain ⟨tR, ts6, rfl, htR, _, hv7⟩ := map_view_cons hv6
  cases List.map_eq_nil_iff.mp hv7
  have hB : tB.ty = .lbrace := by simpa [vLBrace] using htB
  have hR : tR.ty = .rbrace := by simpa [vRBrace] using htR
  obtain ⟨tL, tp', rfl, hL, hpa⟩ := parse_paren c hp hqd tp (to ++ tB :: (tc ++ tR :: rest)) hvp
  have hout := parseOutputs_views c ho hqo to hvo tB hB (tc ++ tR :: rest)
  have hcm := parseCommands_views c cmds tc hvc tR hR rest []
  have e1 : (tN :: (tL :: tp' ++ (to ++ tB :: (tc ++ [tR])))) ++ rest
      = tN :: tL :: (tp' ++ (to ++ tB :: (tc ++ tR :: rest))) := by simp
  rw [e1]
  simp only [parseTask, pnext, expect_ok c hL (by decide), hpa, hout, expect_ok c hB (by decide), hcm]
  simp [hname]

/-! ## assignments -/

theorem parseAssign_str (c : PCtx) (id : Tok) {s : List Rune} (hs : ∀ r ∈ s, r.cp ≠ QUOTE) (ts : List Tok)
    (hv : ts.map view = [vDeclare, (.string, asc QUOTE :: s ++ [asc QUOTE])]) (rest : List Tok) :
    parseAssign c id (ts ++ rest) = .ok (.assign id.val (.str s), rest) := by
  obtain ⟨tD, ts1, rfl, hD, _, hv1⟩ := map_view_cons hv
  obtain ⟨tS, ts2, rfl, hS, hval, hv2⟩ := map_view_cons hv1
  cases List.map_eq_nil_iff.mp hv2
  have hD' : tD.ty = .declare := by simpa [vDeclare] using hD
  simp [parseAssign, expect_ok c hD' (by decide), pnext, hS, hval, stripQuotes_quoted hs]

theorem parseAssign_call (c : PCtx) (id : Tok) {f : List Rune} {args : List Arg} {pv : List View}
    (hp : ParenViews args pv) (hq : ArgsNQ args) (ts : List Tok)
    (hv : ts.map view = vDeclare :: (.ident, f) :: pv) (rest : List Tok) :
    parseAssign c id (ts ++ rest) = .ok (.assign id.val (.call f args), rest) := by
  obtain ⟨tD, ts1, rfl, hD, _, hv1⟩ := map_view_cons hv
  obtain ⟨tF, ts2, rfl, hF, hval, hv2⟩ := map_view_cons hv1
  have hD' : tD.ty = .declare := by simpa [vDeclare] using hD
  obtain ⟨tL, tp', rfl, hL, hpa⟩ := parse_paren c hp hq ts2 rest hv2
  simp [parseAssign, expect_ok c hD' (by decide), pnext, hF, hval, hL, hpa]

/-- `NAME := OTHER`: what follows is not a left parenthesis -/
theorem parseAssign_ident (c : PCtx) (id : Tok) {v : List Rune} (ts : List Tok)
    (hv : ts.map view = [vDeclare, (.ident, v)]) (rest : List Tok)
    (hrest : ∀ t tl, rest = t :: tl → t.ty ≠ .lparen) :
    parseAssign c id (ts ++ rest) = .ok (.assign id.val (.ident v), rest) := by
  obtain ⟨tD, ts1, rfl, hD, _, hv1⟩ := map_view_cons hv
  obtain ⟨tV, ts2, rfl, hV, hval, hv2⟩ := map_view_cons hv1
  cases List.map_eq_nil_iff.mp hv2
  have hD' : tD.ty = .declare := by simpa [vDeclare] using hD
  cases rest with
  | nil => simp [parseAssign, expect_ok c hD' (by decide), pnext, hV, hval]
  | cons t tl =>
    have := hrest t tl rfl
    simp [parseAssign, expect_ok c hD' (by decide), pnext, hV, hval, this]

/-! ## one statement = one iteration of `parseLoop` -/

/-- what follows the tokens of `node`: a token that begins a statement or ends the file; after a comment with text
    not the `task` keyword (the comment would be read as a docstring) -/
def NextOK (node : Node) (next : List Tok) : Prop :=
  ∃ t tl, next = t :: tl ∧
    (t.ty = .hash ∨ t.ty = .ident ∨ t.ty = .eof ∨ (t.ty = .task ∧ node.isNonEmptyComment = false))

theorem parseLoop_assign (c : PCtx) {tI : Tok} (hI : tI.ty = .ident) {ts next : List Tok} {node : Node}
    (h : parseAssign c tI (ts ++ next) = .ok (node, next)) (fuel : Nat) (acc : List Node) :
    parseLoop c (fuel + 1) (tI :: ts ++ next) acc = parseLoop c fuel next (node :: acc) := by
  rw [List.cons_append, parseLoop]
  simp only [hI, h]

theorem parseLoop_stmt (c : PCtx) (node : Node) (vs : List View) (hs : StmtViews node vs) (hq : node.NQ)
    (ts next : List Tok) (hv : ts.map view = vs) (hn : NextOK node next) (fuel : Nat) (acc : List Node) :
    parseLoop c (fuel + 1) (ts ++ next) acc = parseLoop c fuel next (node :: acc) := by
  cases node with
  | comment cm =>
    subst hs
    obtain ⟨tH, ts1, rfl, hH, _, hv1⟩ := map_view_cons hv
    obtain ⟨tC, ts2, rfl, _, hval, hv2⟩ := map_view_cons hv1
    cases List.map_eq_nil_iff.mp hv2
    have hH' : tH.ty = .hash := by simpa [vHash] using hH
    obtain ⟨n, tl, rfl, hn⟩ := hn
    by_cases hc : cm = []
    · subst hc
      simp [parseLoop, hH', pnext, hval]
    · have : n.ty ≠ .task := by
        rcases hn with h | h | h | ⟨_, h⟩
        · rw [h]; decide
        · rw [h]; decide
        · rw [h]; decide
        · simp [Node.isNonEmptyComment, hc] at h
      simp [parseLoop, hH', pnext, hval, this]
  | assign n v =>
    cases v with
    | str s =>
      subst hs
      obtain ⟨tI, ts1, rfl, hI, rfl, hv1⟩ := map_view_cons hv
      exact parseLoop_assign c hI (parseAssign_str c tI hq ts1 hv1 next) fuel acc
    | ident w =>
      subst hs
      obtain ⟨tI, ts1, rfl, hI, rfl, hv1⟩ := map_view_cons hv
      obtain ⟨t, tl, rfl, hn⟩ := hn
      exact parseLoop_assign c hI (parseAssign_ident c tI ts1 hv1 _ fun t' tl' h => by
        cases h; rcases hn with h | h | h | ⟨h, _⟩ <;> simp [h]) fuel acc
    | call f args =>
      obtain ⟨pv, hp, rfl⟩ := hs
      obtain ⟨tI, ts1, rfl, hI, rfl, hv1⟩ := map_view_cons hv
      exact parseLoop_assign c hI (parseAssign_call c tI hp hq ts1 hv1 next) fuel acc
  | task name doc deps outs cmds =>
    obtain ⟨pv, ov, hp, ho, rfl⟩ := hs
    by_cases hd : doc = []
    · subst hd
      obtain ⟨tT, ts1, rfl, hT, _, hv1⟩ := map_view_cons hv
      have hT' : tT.ty = .task := by simpa [vTask] using hT
      have := parseTask_views c [] hp ho hq.1 hq.2 ts1 (by simpa using hv1) next
      rw [List.cons_append, parseLoop]
      simp only [hT', this]
    · have hde : doc.isEmpty = false := by cases doc with | nil => exact absurd rfl hd | cons => rfl
      simp only [hde, Bool.false_eq_true, if_false, List.cons_append, List.nil_append] at hv
      obtain ⟨tH, ts1, rfl, hH, _, hv1⟩ := map_view_cons hv
      obtain ⟨tC, ts2, rfl, _, hval, hv2⟩ := map_view_cons hv1
      obtain ⟨tT, ts3, rfl, hT, _, hv3⟩ := map_view_cons hv2
      have hH' : tH.ty = .hash := by simpa [vHash] using hH
      have hT' : tT.ty = .task := by simpa [vTask] using hT
      have := parseTask_views c doc hp ho hq.1 hq.2 ts3 (by simpa using hv3) next
      simp only [List.cons_append]
      rw [parseLoop]
      simp only [hH', pnext, hT', hval, hde, this]
      simp

/-! ## a whole file -/

/-- the tokens of a file: the statements' tokens, then EOF -/
inductive TreeViews : Tree → List View → Prop
  | nil : TreeViews [] [vEOF]
  | cons (node : Node) (vs : List View) (t : Tree) (rest : List View) : StmtViews node vs → node.NQ →
      TreeViews t rest →
      (node.isNonEmptyComment = true → ∀ n2, t.head? = some n2 → n2.isDoclessTask = false) →
      TreeViews (node :: t) (vs ++ rest)

theorem StmtViews.head {node : Node} {vs : List View} (h : StmtViews node vs) :
    ∃ v tl, vs = v :: tl ∧ (v.1 = .hash ∨ v.1 = .ident ∨ (v.1 = .task ∧ node.isDoclessTask = true)) := by
  cases node with
  | comment cm => simp only [StmtViews] at h; subst h; exact ⟨_, _, rfl, Or.inl rfl⟩
  | assign n v =>
    cases v with
    | str s => simp only [StmtViews] at h; subst h; exact ⟨_, _, rfl, Or.inr (Or.inl rfl)⟩
    | ident w => simp only [StmtViews] at h; subst h; exact ⟨_, _, rfl, Or.inr (Or.inl rfl)⟩
    | call f args =>
      simp only [StmtViews] at h; obtain ⟨pv, _, rfl⟩ := h; exact ⟨_, _, rfl, Or.inr (Or.inl rfl)⟩
  | task name doc deps outs cmds =>
    obtain ⟨pv, ov, _, _, rfl⟩ := h
    cases doc with
    | nil => exact ⟨_, _, rfl, Or.inr (Or.inr ⟨rfl, rfl⟩)⟩
    | cons d ds => exact ⟨_, _, rfl, Or.inl rfl⟩

theorem TreeViews.head {t : Tree} {vs : List View} (h : TreeViews t vs) :
    ∃ v tl, vs = v :: tl ∧ (v.1 = .hash ∨ v.1 = .ident ∨ v.1 = .eof ∨
      (v.1 = .task ∧ ∃ n2, t.head? = some n2 ∧ n2.isDoclessTask = true)) := by
  cases h with
  | nil => exact ⟨_, _, rfl, Or.inr (Or.inr (Or.inl rfl))⟩
  | cons node vs t rest hs _ _ _ =>
    obtain ⟨v, tl, rfl, hv⟩ := hs.head
    refine ⟨v, tl ++ rest, rfl, ?_⟩
    rcases hv with h | h | ⟨h, hd⟩
    · exact Or.inl h
    · exact Or.inr (Or.inl h)
    · exact Or.inr (Or.inr (Or.inr ⟨h, node, rfl, hd⟩))

theorem TreeViews.nextOK {node : Node} {t : Tree} {rest : List View} (ht : TreeViews t rest)
    (hadj : node.isNonEmptyComment = true → ∀ n2, t.head? = some n2 → n2.isDoclessTask = false) {next : List Tok}
    (hv : next.map view = rest) : NextOK node next := by
  obtain ⟨v, tl, rfl, hv1⟩ := ht.head
  obtain ⟨tn, tn', rfl, hty, _, _⟩ := map_view_cons hv
  refine ⟨tn, tn', rfl, ?_⟩
  rw [hty]
  rcases hv1 with h | h | h | ⟨h, n2, hn2, hd⟩
  · exact Or.inl h
  · exact Or.inr (Or.inl h)
  · exact Or.inr (Or.inr (Or.inl h))
  · refine Or.inr (Or.inr (Or.inr ⟨h, ?_⟩))
    cases hc : node.isNonEmptyComment with
    | false => rfl
    | true => rw [hadj hc n2 hn2] at hd; cases hd

theorem parseLoop_tree (c : PCtx) {t : Tree} {vs : List View} (h : TreeViews t vs) :
    ∀ (toks : List Tok) (fuel : Nat) (acc : List Node), toks.map view = vs → toks.length ≤ fuel →
    parseLoop c fuel toks acc = (acc.reverse ++ t, none) := by
  induction h with
  | nil =>
    intro toks fuel acc hv hf
    obtain ⟨tE, ts1, rfl, hE, _, hv1⟩ := map_view_cons hv
    have hE' : tE.ty = .eof := by simpa [vEOF] using hE
    cases fuel with
    | zero => simp at hf
    | succ fuel => simp [parseLoop, hE']
  | cons node vs t rest hs hq ht hadj ih =>
    intro toks fuel acc hv hf
    obtain ⟨ts, next, rfl, hvs, hvn⟩ := List.map_eq_append_iff.mp hv
    obtain ⟨v0, tl0, rfl, _⟩ := hs.head
    obtain ⟨t0, ts0, rfl, _⟩ := map_view_cons hvs
    cases fuel with
    | zero => simp at hf
    | succ fuel =>
      rw [parseLoop_stmt c node _ hs hq _ next hvs (ht.nextOK hadj hvn) fuel acc,
        ih next fuel (node :: acc) hvn (by simp at hf; omega)]
      simp

/-- non-vacuity: `# h`, `x := "a"`, EOF -/
example (c : PCtx) :
    parseLoop c 6 [⟨.hash, [asc HASH], 0, 1, 0⟩, ⟨.comment, [asc 104], 1, 1, 0⟩, ⟨.ident, [asc 120], 3, 2, 0⟩,
      ⟨.declare, [asc COLON, asc EQUALS], 5, 2, 0⟩, ⟨.string, [asc QUOTE, asc 97, asc QUOTE], 8, 2, 0⟩, ⟨.eof, [], 11, 2, 0⟩] [] =
    ([.comment [asc 104], .assign [asc 120] (.str [asc 97])], none) := by
  have h : TreeViews [.comment [asc 104], .assign [asc 120] (.str [asc 97])]
      ([vHash, (.comment, [asc 104])] ++ ([(.ident, [asc 120]), vDeclare, (.string, asc QUOTE :: [asc 97] ++ [asc QUOTE])] ++ [vEOF])) :=
    TreeViews.cons _ _ _ _ rfl trivial
      (TreeViews.cons _ _ _ _ rfl (by intro r hr; simp at hr; subst hr; decide) TreeViews.nil (by intro h; cases h))
      (by intro _ n2 h2; cases h2; rfl)
  exact parseLoop_tree c h _ 6 [] rfl (by decide)

end Spok
