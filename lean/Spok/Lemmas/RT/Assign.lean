import Spok.Lemmas.RT.Paren
/-! # Round trip: lexing an assignment (`LexStmtSpec Node.isAssign`): string, builtin call, identifier -/
namespace Spok
namespace RT

/-- a name that does not begin with `task`, followed by something that is not an identifier rune, is not read as
    the keyword -/
theorem not_kw_of_kwPrefix {n X : List Rune} (hne : n ≠ []) (hk : kwPrefix n = false) (hX : Stops isIdent X) :
    ((n ++ X).take 4).map (·.cp) ≠ [116, 97, 115, 107] := by
  intro h
  have hx : ∀ x xs, X = x :: xs → x.cp ≠ 97 ∧ x.cp ≠ 115 ∧ x.cp ≠ 107 := by
    intro x xs hX'
    have := hX x (by rw [hX']; rfl)
    refine ⟨fun he => ?_, fun he => ?_, fun he => ?_⟩ <;>
    · rw [isIdent_eq, he] at this; exact absurd this (by decide)
  match n, hne, hk with
  | [a], _, _ =>
    cases X with
    | nil => simp at h
    | cons x xs => simp at h; exact (hx x xs rfl).1 h.2.1
  | [a, b], _, _ =>
    cases X with
    | nil => simp at h
    | cons x xs => simp at h; exact (hx x xs rfl).2.1 h.2.2.1
  | [a, b, c], _, _ =>
    cases X with
    | nil => simp at h
    | cons x xs => simp at h; exact (hx x xs rfl).2.2 h.2.2.2
  | a :: b :: c :: d :: n', _, hk =>
    simp [kwPrefix] at hk h
    exact hk h.1 h.2.1 h.2.2.1 h.2.2.2

theorem goes_assign_head {n ws1 : List Rune} (hne : n ≠ []) (hn : IdentRunes n) (hk : kwPrefix n = false) (hw1 : Ws ws1)
    {l : L} {t : Tag} {V : List Rune} (hat : AtStmt l t (n ++ (ws1 ++ asc COLON :: asc EQUALS :: V))) :
    Goes l t .declare (asc COLON :: asc EQUALS :: V) [] [(.ident, n)] := by
  cases n with
  | nil => exact absurd rfl hne
  | cons r n' =>
    have hX : Stops isIdent (ws1 ++ asc COLON :: asc EQUALS :: V) := stops_ident_ws_append hw1 (Stops.cons (by simp) _)
    exact ((goes_enter_ident hat (hn r (by simp)) (not_kw_of_kwPrefix hne hk hX)).trans
      (go_word hn hw1 (Stops.cons (by simp) _) (Stops.cons (by simp) _) (by simp [identTag, declAhead]) (by simp))).views_eq
      (by simp)

theorem ws_takeWhile (xs : List Rune) : Ws (xs.takeWhile isSpace) := fun _ h => of_mem_takeWhile h

/-- where `lexRightParen` goes after a builtin call, and that this is a statement boundary -/
theorem rparenTag_nextStmt {rest : List Rune} (h : NextStmtOK rest) :
    rparenTag (rest.dropWhile isSpace) ≠ .done ∧
    ∀ l' : L, l'.tokRev = [] → l'.right = rest.dropWhile isSpace → AtStmt l' (rparenTag (rest.dropWhile isSpace)) rest := by
  unfold NextStmtOK at h
  cases hd : rest.dropWhile isSpace with
  | nil =>
    refine ⟨by simp [rparenTag], fun l' hk hr => ⟨hk, Or.inl ⟨by simp [rparenTag], ?_⟩⟩⟩
    rw [hr, hd]; rfl
  | cons r rs =>
    rw [hd] at h
    rcases h with h | h
    · have h1 : r.cp ≠ LBRACE := cp_ne_of_ident h (by simp)
      have h2 : r.cp ≠ MINUS := cp_ne_of_ident h (by simp)
      have hT : rparenTag (r :: rs) = .start := by simp [rparenTag, arrowAhead, h1, h2, h]
      refine ⟨by simp [hT], fun l' hk hr => ⟨hk, Or.inl ⟨hT, ?_⟩⟩⟩
      rw [hr, ← hd, dropWhile_idem]
    · have hi : isIdent r = false := not_ident_of_cp h (by simp)
      have hT : rparenTag (r :: rs) = .hash := by simp [rparenTag, arrowAhead, h, hi]
      refine ⟨by simp [hT], fun l' hk hr => ⟨hk, Or.inr ⟨hT, hr.trans hd.symm, r, rs, hr, h⟩⟩⟩

end RT

open RT in
theorem lexStmt_assign : LexStmtSpec Node.isAssign := by
  intro node txt rest hP hst l t hat
  cases hst with
  | comment => exact hP.elim
  | task => exact hP.elim
  | assignStr n ws1 ws2 s b e rest hne hn hkw hw1 hw2 hs hb he =>
    simp only [List.append_assoc, List.cons_append] at hat
    have ht : e ++ rest = [] ∨ startsEol (e ++ rest) = true :=
      he.elim (fun he => Or.inr (eol_startsEol he rest)) fun ⟨h1, h2⟩ => Or.inl (by rw [h1, h2]; rfl)
    obtain ⟨l', hR, hr', hk', hv'⟩ := ((goes_assign_head hne hn hkw hw1 hat).trans
      (go_lexDeclare_string (by simp) hw2 rfl)).trans (go_lexDeclString hs rfl hb ht)
    exact ⟨l', .start, hR, atStmt_start hk' hr' (he.elim eol_ws fun ⟨h1, _⟩ => h1 ▸ ws_nil), _, rfl,
      by simpa [vDeclare] using hv'⟩
  | assignCall n ws1 ws2 f ws3 args p rest hne hn hkw hw1 hw2 hfne hf hw3 hp hnext =>
    cases f with
    | nil => exact absurd rfl hfne
    | cons f0 f' =>
      obtain ⟨iv, hiv, hgo⟩ := go_paren hp
      obtain ⟨p', rfl⟩ := parenText_head hp
      obtain ⟨hTne, hexit⟩ := rparenTag_nextStmt hnext
      simp only [List.append_assoc, List.cons_append] at hat
      obtain ⟨l', hR, hr', hk', hv'⟩ := ((((goes_assign_head hne hn hkw hw1 hat).trans
        (go_lexDeclare_ident (by simp) hw2 (hf f0 (by simp)))).trans
        (go_word (t := .leftParen) hf hw3 (Stops.cons (by simp) _) (Stops.cons (by simp) _) (by simp [identTag])
          (by simp))).trans hgo).trans
        fun l4 hr4 hk4 => go_lexRightParen (ws_takeWhile rest) (stops_dropWhile _ _) hTne l4
          (by rw [hr4, List.takeWhile_append_dropWhile]) hk4
      refine ⟨l', _, hR, hexit l' hk' hr', _, ⟨vLParen :: iv ++ [vRParen], ?_, rfl⟩,
        by simpa [vDeclare, vRParen] using hv'⟩
      exact hiv.elim (fun h => Or.inl ⟨h.1, by rw [h.2]; rfl⟩) fun h => Or.inr ⟨iv, h, rfl⟩
  | assignIdent n ws1 ws2 v ws3 hne hn hkw hw1 hw2 hvne hv hw3 =>
    cases v with
    | nil => exact absurd rfl hvne
    | cons v0 v' =>
      simp only [List.append_assoc, List.cons_append] at hat
      obtain ⟨l', hR, hr', hk', hv'⟩ := ((goes_assign_head hne hn hkw hw1 hat).trans
        (go_lexDeclare_ident (by simp) hw2 (hv v0 (by simp)))).trans
        (go_word (after := []) (t := .start) hv hw3 (Stops.nil _) (Stops.nil _) (by simp [identTag]) (by simp))
      exact ⟨l', .start, hR, atStmt_start (ws := []) hk' (by simpa using hr') ws_nil, _, rfl,
        by simpa [vDeclare] using hv'⟩

end Spok
