import Spok.Lemmas.RT.Defs
import Spok.Lemmas.RT.Lists
import Spok.Lemmas.RT.Chars
/-! # Round trip: primitive lemmas about the lexer machine, shared by the lexing lemmas

Everything here speaks about the three components of a scanner state that decide the control flow and the
token texts — `right` (remaining input), `tokRev` (token under construction) and `views` (tokens emitted,
without offsets).  What the primitives and the scanning loops do to the fields is taken from
`Lemmas/LexPrim.lean` and `Lemmas/LexRight.lean`.

Then the scanning loops on input of a given shape, and `Goes` / `Go`, the chaining forms of `Reaches` in which the
lemmas about state functions (`RT/States.lean`) are stated. -/
namespace Spok
namespace RT

/-! ## white space in front of a text -/

theorem ws_append {a b : List Rune} (ha : Ws a) (hb : Ws b) : Ws (a ++ b) := by
  intro r hr; rcases List.mem_append.mp hr with h | h
  · exact ha r h
  · exact hb r h

theorem ws_nil : Ws [] := by intro r hr; cases hr

theorem ws_of_all {ws : List Rune} (h : ws.all isSpace = true) : Ws ws := fun r hr => List.all_eq_true.mp h r hr

theorem eol_ws {e : List Rune} (h : Eol e) : Ws e := by
  rcases h with rfl | rfl <;> intro r hr <;> simp at hr
  · subst hr; simp
  · rcases hr with rfl | rfl <;> simp

theorem eol_startsEol {e : List Rune} (h : Eol e) (rest : List Rune) : startsEol (e ++ rest) = true := by
  rcases h with rfl | rfl
  · simp [Spok.startsEol]
  · simp [Spok.startsEol]

/-! ## projections of the primitives

The fields are followed by `Lemmas/LexPrim.lean` and `Lemmas/LexRight.lean`; `simp` brings `(l.next).1.backup` and
`(l.atEOL).1` to `(l.peek).1`.  Here: the same for `views`. -/

theorem views_of_toks {l l' : L} (h : l'.toks = l.toks) : views l' = views l := by simp [views, h]

@[simp] theorem views_emit (l : L) (ty : TT) : views (l.emit ty) = views l ++ [(ty, l.tokRev.reverse)] := by
  simp [views, view]
@[simp] theorem views_next (l : L) : views (l.next).1 = views l := views_of_toks (by simp)
@[simp] theorem views_peek (l : L) : views (l.peek).1 = views l := views_of_toks (by simp)
@[simp] theorem views_absorb (l : L) (n : Nat) : views (l.absorb n) = views l := rfl
@[simp] theorem views_discard (l : L) : views l.discard = views l := rfl
@[simp] theorem views_skipWs (l : L) : views (skipWs l) = views l := views_of_toks (by simp)
@[simp] theorem views_scanIdent (l : L) : views (scanIdent l) = views l := views_of_toks (by simp)
@[simp] theorem views_skipBlanks (l : L) : views (skipBlanks l) = views l := views_of_toks (by simp)

theorem next_width_cons {l : L} {r : Rune} {rs : List Rune} (h : l.right = r :: rs) :
    (l.next).1.width = r.w := by simp [L.next_cons h]
theorem atEOL_left (l : L) : (l.atEOL).1.left = l.left := L.peek_left l
theorem absorb_left (l : L) (n : Nat) : (l.absorb n).left = (l.right.take n).reverse ++ l.left := L.absorb_left l n
theorem absorb_tokRev (l : L) (n : Nat) : (l.absorb n).tokRev = (l.right.take n).reverse ++ l.tokRev :=
  L.absorb_tokRev l n
theorem emit_left (l : L) (t : TT) : (l.emit t).left = l.left := L.emit_left l t
theorem discard_left (l : L) : l.discard.left = l.left := L.discard_left l
theorem skipWs_left (l : L) : (skipWs l).left = (l.right.takeWhile isSpace).reverse ++ l.left := Spok.skipWs_left l
theorem scanIdent_left (l : L) : (scanIdent l).left = (l.right.takeWhile isIdent).reverse ++ l.left :=
  (scanIdent_reads l).left

@[simp] theorem hasPrefix_peek (l : L) (s : List Nat) : (l.peek).1.hasPrefix s = l.hasPrefix s :=
  L.hasPrefix_congr (by simp) s
theorem hasPrefix_atEOL (l : L) (s : List Nat) : (l.atEOL).1.hasPrefix s = l.hasPrefix s := hasPrefix_peek l s
@[simp] theorem atEOF_peek (l : L) : (l.peek).1.atEOF = l.atEOF := L.atEOF_congr (by simp)
theorem atEOF_atEOL (l : L) : (l.atEOL).1.atEOF = l.atEOF := atEOF_peek l
theorem atEOF_cons {l : L} {r : Rune} {rs : List Rune} (h : l.right = r :: rs) : l.atEOF = false := by
  simp [L.atEOF, h]
theorem atEOF_nil {l : L} (h : l.right = []) : l.atEOF = true := by simp [L.atEOF, h]

def headRune : List Rune → Rune
  | [] => eofRune
  | r :: _ => r
@[simp] theorem headRune_cons (r : Rune) (rs : List Rune) : headRune (r :: rs) = r := rfl
@[simp] theorem headRune_nil : headRune [] = eofRune := rfl

/-! ## the scanning loops on shaped input -/

theorem skipWs_right_ws {l : L} {ws rest : List Rune} (hr : l.right = ws ++ rest) (hw : Ws ws) (hs : Stops isSpace rest) :
    (skipWs l).right = rest := by
  rw [skipWs_right, hr, dropWhile_append_stops hw hs]

theorem scanIdent_spec {l : L} {n rest : List Rune} (hr : l.right = n ++ rest) (hn : IdentRunes n)
    (hs : Stops isIdent rest) :
    (scanIdent l).right = rest ∧ (scanIdent l).tokRev = n.reverse ++ l.tokRev := by
  rw [scanIdent_right, (scanIdent_reads l).tokRev, hr, dropWhile_append_stops hn hs, takeWhile_append_stops hn hs]
  exact ⟨rfl, rfl⟩

/-- a comment text `c` followed by `tail` (empty, or beginning with a line end; no `\r` | `\n` split across
    the boundary): `scanComment` takes exactly `c` -/
theorem scanComment_spec {c tail : List Rune} {l : L} (hr : l.right = c ++ tail) (hc : CommentOK c)
    (ht : tail = [] ∨ startsEol tail = true) (hcr : endsWithCp c CR = true → ∀ r, tail.head? = some r → r.cp ≠ NL) :
    (scanComment l).right = tail ∧ (scanComment l).tokRev = c.reverse ++ l.tokRev ∧ (scanComment l).toks = l.toks := by
  have r := scanComment_reads l
  have e : untilEol l.right = c := by
    rw [hr]
    refine untilEol_append (fun pre suf e hne => ?_) ht
    have hsuf : ∀ x ∈ suf, x.cp ≠ NL := fun x hx => hc x (by rw [e]; simp [hx])
    rcases suf with _ | ⟨a, _ | ⟨b, suf⟩⟩
    · exact absurd rfl hne
    · -- the last rune of `c`: a carriage return there must not meet a newline
      have ha := hsuf a (by simp)
      cases tail with
      | nil => simp [startsEol, ha]
      | cons t ts =>
        by_cases hcar : a.cp = CR
        · have := hcr (by simp [endsWithCp, e, hcar]) t rfl
          simp [startsEol, ha, this]
        · simp [startsEol, ha, hcar]
    · simp [startsEol, hsuf a (by simp), hsuf b (by simp)]
  rw [e] at r
  exact ⟨List.append_cancel_left (hr.symm.trans r.right).symm, r.tokRev, r.toks⟩

theorem scanString_spec {s : List Rune} {l : L} {q : Rune} {rest : List Rune} (hr : l.right = s ++ q :: rest)
    (hs : StrOK s) (hq : q.cp = QUOTE) :
    ∃ l', scanString l = .ok l' ∧ l'.right = rest ∧ l'.tokRev = q :: s.reverse ++ l.tokRev ∧ l'.toks = l.toks := by
  obtain ⟨l', e, r, hr'⟩ := scanString_of_span (l := l) (by rw [hr]; exact strSpan_append rest hs hq)
  exact ⟨l', e, hr', by simpa using r.tokRev, r.toks⟩

/-! ## chaining runs -/

/-- From `(l, t)` the run loop reaches tag `t'` in a state whose remaining input is `rt` and whose token buffer
    is `tk`, having emitted the tokens `vs`. -/
def Goes (l : L) (t t' : Tag) (rt tk : List Rune) (vs : List View) : Prop :=
  ∃ l', Reaches l t l' t' ∧ l'.right = rt ∧ l'.tokRev = tk ∧ views l' = views l ++ vs

theorem Goes.step {l l' : L} {t t' : Tag} {rt tk : List Rune} {vs : List View} (hf : t.final = false)
    (hs : stepTag l t = (l', t')) (hr : l'.right = rt) (hk : l'.tokRev = tk) (hv : views l' = views l ++ vs) :
    Goes l t t' rt tk vs := ⟨l', Reaches.step hf hs, hr, hk, hv⟩

/-- from tag `t` with `rt` ahead and `tk` in the token buffer the run loop reaches `t'` with `rt'` ahead and `tk'` in
    the token buffer, having emitted `vs`: whatever the scanner state.  The step lemmas (`RT/States.lean`) are
    stated in this form, with the text ahead written as `simp only [List.append_assoc, List.cons_append]` leaves
    it, so that in a chain each step finds its text by unification. -/
def Go (t : Tag) (rt tk : List Rune) (t' : Tag) (rt' tk' : List Rune) (vs : List View) : Prop :=
  ∀ l : L, l.right = rt → l.tokRev = tk → Goes l t t' rt' tk' vs

theorem Goes.trans {l : L} {t t1 t2 : Tag} {r1 k1 r2 k2 : List Rune} {v1 v2 : List View}
    (h1 : Goes l t t1 r1 k1 v1) (h2 : Go t1 r1 k1 t2 r2 k2 v2) : Goes l t t2 r2 k2 (v1 ++ v2) := by
  obtain ⟨l1, hR1, hr1, hk1, hv1⟩ := h1
  obtain ⟨l2, hR2, hr2, hk2, hv2⟩ := h2 l1 hr1 hk1
  exact ⟨l2, hR1.trans hR2, hr2, hk2, by rw [hv2, hv1, List.append_assoc]⟩

theorem Go.trans {t t1 t2 : Tag} {r r1 r2 k k1 k2 : List Rune} {v1 v2 : List View}
    (h1 : Go t r k t1 r1 k1 v1) (h2 : Go t1 r1 k1 t2 r2 k2 v2) : Go t r k t2 r2 k2 (v1 ++ v2) :=
  fun l hr hk => (h1 l hr hk).trans h2

theorem Go.views {t t' : Tag} {r r' k k' : List Rune} {vs vs' : List View} (h : Go t r k t' r' k' vs) (e : vs = vs') :
    Go t r k t' r' k' vs' := e ▸ h

theorem Goes.views_eq {l : L} {t t' : Tag} {rt tk : List Rune} {vs vs' : List View} (h : Goes l t t' rt tk vs)
    (e : vs = vs') : Goes l t t' rt tk vs' := e ▸ h

/-- a step that ends by reading the rune it dispatched on: the next state function starts with that rune in the
    token buffer -/
theorem Goes.take {l m : L} {t t' : Tag} {r : Rune} {rs : List Rune} {vs : List View} (hf : t.final = false)
    (hs : stepTag l t = ((m.next).1, t')) (hm : m.right = r :: rs) (hk : m.tokRev = [])
    (hv : views m = views l ++ vs) : Goes l t t' rs [r] vs :=
  Goes.step hf hs (L.next_right_cons hm) (by rw [L.next_tokRev_cons hm, hk]) (by simpa using hv)

/-- a step that ends by un-reading the rune it dispatched on -/
theorem Goes.stay {l m : L} {t t' : Tag} {rt : List Rune} {vs : List View} (hf : t.final = false)
    (hs : stepTag l t = ((m.next).1.backup, t')) (hm : m.right = rt) (hk : m.tokRev = [])
    (hv : views m = views l ++ vs) : Goes l t t' rt [] vs :=
  Goes.step hf hs (by simp [hm]) (by simp [hk]) (by simpa using hv)

/-- punctuation `p` (absorbed and emitted as one token of type `ty`), white space, then `after`: the first half of
    `lexTaskKeyword lexLeftParen lexRightParen lexOutputOp lexLeftBrace lexComma lexDeclare` -/
theorem punct_ws {l : L} {p ws after : List Rune} {n : Nat} (ty : TT) (hn : p.length = n)
    (hr : l.right = p ++ (ws ++ after)) (hk : l.tokRev = []) (hw : Ws ws) (hs : Stops isSpace after) :
    (skipWs ((l.absorb n).emit ty)).right = after ∧
    views (skipWs ((l.absorb n).emit ty)) = views l ++ [(ty, p)] := by
  subst hn
  refine ⟨?_, by simp [hr, hk]⟩
  rw [skipWs_right]; simp [hr, dropWhile_append_stops hw hs]

end RT
end Spok

/-! ## `Spok.RTT`

`(l.peek).1` and `(l.atEOL).1` are by definition `(l.next).1.backup`; the other lemmas of this namespace restate ones
above, of `RT/Chars.lean` and of `RT/Defs.lean`.  No proof uses them. -/
namespace Spok.RTT

@[simp] theorem asc_cp (c : Nat) : (asc c).cp = c := rfl

theorem L.peek_fst (l : L) : (l.peek).1 = (l.next).1.backup := rfl

theorem L.atEOL_fst (l : L) : (l.atEOL).1 = (l.next).1.backup := rfl

@[simp] theorem L.emit_left (l : L) (t : TT) : (l.emit t).left = l.left := Spok.L.emit_left l t

@[simp] theorem views_absorb (l : L) (n : Nat) : views (l.absorb n) = views l := rfl

@[simp] theorem startsEol_nil : startsEol [] = false := rfl

theorem startsEol_cons_of {r : Rune} (rs : List Rune) (h1 : r.cp ≠ NL) (h2 : r.cp ≠ CR) : startsEol (r :: rs) = false := by
  simp [startsEol, h1, h2]

theorem isSpace_false_of_cp {r : Rune} {c : Nat} (h : r.cp = c) (hc : isSpaceCp c = false) : isSpace r = false :=
  RT.not_space_of_cp h hc

theorem step_reaches {l l' : L} {t t' : Tag} (hf : t.final = false) (hs : stepTag l t = (l', t')) :
    Reaches l t l' t' := Reaches.step hf hs

theorem reach_leftParen {l l' : L} {t' : Tag} (h : lexLeftParen l = (l', t')) : Reaches l .leftParen l' t' := Reaches.step rfl h

theorem hasPrefix_eq (l : L) (s : List Nat) : l.hasPrefix s = ((l.right.take s.length).map (·.cp) == s) := rfl

end Spok.RTT
