import Spok.Lemmas.LexRight
/-! # Round trip: character classes

White space is never an identifier rune (Go's `unicode.IsSpace` against `unicode.IsLetter` and `_`: a sweep over
the white-space code points of Go's own tables); the ASCII punctuation used by the syntax is neither; a rune's
class from its code point. -/
namespace Spok
namespace RT

def identCp (c : Nat) : Bool := isLetterCp c || c == 95

theorem isIdent_eq (r : Rune) : isIdent r = identCp r.cp := rfl
theorem isSpace_eq (r : Rune) : isSpace r = isSpaceCp r.cp := rfl
@[simp] theorem asc_cp (c : Nat) : (asc c).cp = c := rfl
@[simp] theorem isIdent_asc (c : Nat) : isIdent (asc c) = identCp c := rfl
@[simp] theorem isSpace_asc (c : Nat) : isSpace (asc c) = isSpaceCp c := rfl

/-- all code points a range table contains -/
def tablePoints : List (Nat × Nat × Nat) → List Nat
  | [] => []
  | (lo, hi, st) :: t => (List.range ((hi - lo) / st + 1)).map (fun k => lo + k * st) ++ tablePoints t

theorem mem_tablePoints {t : List (Nat × Nat × Nat)} {c : Nat} (h : inTable t c = true) : c ∈ tablePoints t := by
  induction t with
  | nil => simp [inTable] at h
  | cons e t ih =>
    obtain ⟨lo, hi, st⟩ := e
    simp only [inTable, Bool.or_eq_true, Bool.and_eq_true, decide_eq_true_eq, beq_iff_eq] at h
    simp only [tablePoints, List.mem_append, List.mem_map, List.mem_range]
    rcases h with ⟨⟨h1, h2⟩, h3⟩ | h
    · left
      refine ⟨(c - lo) / st, ?_, ?_⟩
      · have : (c - lo) / st ≤ (hi - lo) / st := Nat.div_le_div_right (by omega)
        omega
      · have := Nat.div_mul_cancel (Nat.dvd_of_mod_eq_zero h3)
        omega
    · exact Or.inr (ih h)

/-- a finite list containing every white-space code point -/
def spacePoints : List Nat := List.range 256 ++ tablePoints Generated.Unicode.space

theorem spacePoints_check : (spacePoints.all fun c => !isSpaceCp c || !identCp c) = true := by
  decide +kernel

/-- Unicode white space is never a letter nor `_` (checked on Go's own tables) -/
theorem isSpaceCp_not_identCp {c : Nat} (h : isSpaceCp c = true) : identCp c = false := by
  have hm : c ∈ spacePoints := by
    unfold spacePoints
    unfold isSpaceCp at h
    split at h
    · exact List.mem_append_left _ (List.mem_range.mpr (by omega))
    · exact List.mem_append_right _ (mem_tablePoints h)
  have := spacePoints_check
  rw [List.all_eq_true] at this
  have := this c hm
  simpa [h] using this

theorem isSpace_not_ident {r : Rune} (h : isSpace r = true) : isIdent r = false :=
  isSpaceCp_not_identCp h

theorem isIdent_not_space {r : Rune} (h : isIdent r = true) : isSpace r = false := by
  cases hs : isSpace r with
  | false => rfl
  | true => rw [isSpace_not_ident hs] at h; cases h

@[simp] theorem identCp_QUOTE : identCp QUOTE = false := by decide
@[simp] theorem identCp_HASH : identCp HASH = false := by decide
@[simp] theorem identCp_LPAREN : identCp LPAREN = false := by decide
@[simp] theorem identCp_RPAREN : identCp RPAREN = false := by decide
@[simp] theorem identCp_COMMA : identCp COMMA = false := by decide
@[simp] theorem identCp_MINUS : identCp MINUS = false := by decide
@[simp] theorem identCp_COLON : identCp COLON = false := by decide
@[simp] theorem identCp_EQUALS : identCp EQUALS = false := by decide
@[simp] theorem identCp_GT : identCp GT = false := by decide
@[simp] theorem identCp_LBRACE : identCp LBRACE = false := by decide
@[simp] theorem identCp_RBRACE : identCp RBRACE = false := by decide
@[simp] theorem identCp_NL : identCp NL = false := by decide
@[simp] theorem identCp_CR : identCp CR = false := by decide
@[simp] theorem isSpaceCp_QUOTE : isSpaceCp QUOTE = false := by decide
@[simp] theorem isSpaceCp_HASH : isSpaceCp HASH = false := by decide
@[simp] theorem isSpaceCp_LPAREN : isSpaceCp LPAREN = false := by decide
@[simp] theorem isSpaceCp_RPAREN : isSpaceCp RPAREN = false := by decide
@[simp] theorem isSpaceCp_COMMA : isSpaceCp COMMA = false := by decide
@[simp] theorem isSpaceCp_MINUS : isSpaceCp MINUS = false := by decide
@[simp] theorem isSpaceCp_COLON : isSpaceCp COLON = false := by decide
@[simp] theorem isSpaceCp_EQUALS : isSpaceCp EQUALS = false := by decide
@[simp] theorem isSpaceCp_GT : isSpaceCp GT = false := by decide
@[simp] theorem isSpaceCp_LBRACE : isSpaceCp LBRACE = false := by decide
@[simp] theorem isSpaceCp_RBRACE' : isSpaceCp RBRACE = false := isSpaceCp_RBRACE
attribute [simp] isSpaceCp_NL isSpaceCp_CR
@[simp] theorem isSpaceCp_SP' : isSpaceCp SP = true := isSpaceCp_SP
@[simp] theorem isSpaceCp_TAB' : isSpaceCp TAB = true := isSpaceCp_TAB
@[simp] theorem eofRune_cp : eofRune.cp = 0xFFFD := rfl

theorem not_ident_of_cp {r : Rune} {c : Nat} (h : r.cp = c) (hc : identCp c = false) : isIdent r = false := by
  rw [isIdent_eq, h, hc]
theorem not_space_of_cp {r : Rune} {c : Nat} (h : r.cp = c) (hc : isSpaceCp c = false) : isSpace r = false := by
  rw [isSpace_eq, h, hc]
theorem cp_ne_of_ident {r : Rune} (h : isIdent r = true) {c : Nat} (hc : identCp c = false) : r.cp ≠ c := by
  intro he; rw [isIdent_eq, he, hc] at h; cases h
theorem cp_ne_of_space {r : Rune} (h : isSpace r = true) {c : Nat} (hc : isSpaceCp c = false) : r.cp ≠ c := by
  intro he; rw [isSpace_eq, he, hc] at h; cases h

end RT
end Spok
