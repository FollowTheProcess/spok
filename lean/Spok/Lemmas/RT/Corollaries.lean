import Spok.Lemmas.RT.Format
/-! # Round trip: what follows from C06

The theorems take C06 as a hypothesis, `hC06 : ∀ t txt, Doc t txt → parseRunes txt = ⟨t, none⟩`; it is
`parseRunes_doc` (`RT/Assemble.lean`, which this file does not import):

* `print_parse`: the formatter's output parses, without error, to the normalised tree;
* `sem_norm` (C07): normalisation does not change what the file does;
* `format_norm` (C11): formatting the normalised tree gives the same text — with `print_parse`, the
  formatter is idempotent (`format_idem`);
* `notes_norm` (C15): normalisation does not change comments (as shown) and docstrings. -/
namespace Spok

theorem print_parse (hC06 : ∀ t txt, Doc t txt → parseRunes txt = ⟨t, none⟩) {t : Tree} (h : wfTree t = true) :
    parseRunes (format t) = ⟨norm t, none⟩ :=
  hC06 (norm t) (format t) (renders_format t h)

/-- C07: the normalised tree means the same -/
theorem sem_norm (t : Tree) : sem (norm t) = sem t := by
  simp only [sem, norm, List.filterMap_map]
  congr 1
  funext n
  cases n <;> rfl

theorem printComment_norm (L : Lits) (c : List Rune) : printComment L (normComment c) = printComment L c := by
  simp only [printComment, normComment_isEmpty, trimSpace_normComment]

theorem printNode_norm (L : Lits) (n : Node) : printNode L (normNode n) = printNode L n := by
  cases n with
  | comment c =>
    simp only [normNode, printNode, normComment_isEmpty, printComment_norm]
  | assign n v => rfl
  | task name doc deps outs cmds =>
    simp only [normNode, printNode, printComment_norm]

/-- C11 (tree form): the normalised tree is written out as the same text, for any literals -/
theorem printTree_norm (L : Lits) (t : Tree) : printTree L (norm t) = printTree L t := by
  simp only [printTree, norm, List.map_map]
  congr 1
  apply List.map_congr_left
  intro n _
  exact printNode_norm L n

theorem format_norm (t : Tree) : format (norm t) = format t := printTree_norm stdLits t

theorem normComment_idem (c : List Rune) : normComment (normComment c) = normComment c := by
  cases c with
  | nil => rfl
  | cons a c =>
    have e : normComment (a :: c) = asc SP :: trimSpace (a :: c) := rfl
    rw [e]
    show asc SP :: trimSpace (asc SP :: trimSpace (a :: c)) = _
    rw [trimSpace_respell]

theorem norm_idem (t : Tree) : norm (norm t) = norm t := by
  simp only [norm, List.map_map]
  apply List.map_congr_left
  intro n _
  cases n <;> simp [normNode, normComment_idem]

/-- C15: the normalised tree documents the same -/
theorem notes_norm (t : Tree) : notes (norm t) = notes t := by
  simp only [notes, norm, List.filterMap_map]
  congr 1
  funext n
  cases n with
  | comment c => simp only [Function.comp, normNode, trimSpace_normComment]
  | assign n v => rfl
  | task name doc deps outs cmds => simp only [Function.comp, normNode, trimSpace_normComment]

/-- C11: formatting what the formatted text parses to gives the same text again -/
theorem format_idem (hC06 : ∀ t txt, Doc t txt → parseRunes txt = ⟨t, none⟩) {t : Tree} (h : wfTree t = true) :
    (parseRunes (format t)).fail = none ∧ format (parseRunes (format t)).tree = format t := by
  rw [print_parse hC06 h]
  exact ⟨rfl, format_norm t⟩

/-- C07: what the formatted text parses to means the same as the tree that was formatted -/
theorem format_sem (hC06 : ∀ t txt, Doc t txt → parseRunes txt = ⟨t, none⟩) {t : Tree} (h : wfTree t = true) :
    sem (parseRunes (format t)).tree = sem t := by
  rw [print_parse hC06 h]; exact sem_norm t

/-- C15: … and documents the same -/
theorem format_notes (hC06 : ∀ t txt, Doc t txt → parseRunes txt = ⟨t, none⟩) {t : Tree} (h : wfTree t = true) :
    notes (parseRunes (format t)).tree = notes t := by
  rw [print_parse hC06 h]; exact notes_norm t

end Spok
