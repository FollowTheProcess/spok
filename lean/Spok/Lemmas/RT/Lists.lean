/-! # Round trip: a piece of a list followed by something that stops the scan

`takeWhile` / `dropWhile` on `piece ++ rest` when `p` holds on the piece and `rest` is empty or begins with an
element on which `p` is false (`Stops p rest`). -/
namespace Spok
namespace RT

def Stops {α} (p : α → Bool) (rest : List α) : Prop := ∀ r, rest.head? = some r → p r = false

theorem Stops.nil {α} (p : α → Bool) : Stops p [] := by intro r h; cases h
theorem Stops.cons {α} {p : α → Bool} {r : α} (h : p r = false) (rs : List α) : Stops p (r :: rs) := by
  intro r' h'; simp at h'; subst h'; exact h

theorem stops_dropWhile {α} (p : α → Bool) (xs : List α) : Stops p (xs.dropWhile p) := by
  intro r hr
  have := List.head?_dropWhile_not p xs
  rw [hr] at this
  exact this

theorem dropWhile_of_stops {α} {p : α → Bool} {xs : List α} (h : Stops p xs) : xs.dropWhile p = xs := by
  cases xs with
  | nil => rfl
  | cons x xs => simp [h x rfl]

theorem dropWhile_append_stops {α} {p : α → Bool} {ws rest : List α} (hw : ∀ r ∈ ws, p r = true) (hs : Stops p rest) :
    (ws ++ rest).dropWhile p = rest := by
  rw [List.dropWhile_append_of_pos hw, dropWhile_of_stops hs]

theorem takeWhile_append_stops {α} {p : α → Bool} {ws rest : List α} (hw : ∀ r ∈ ws, p r = true) (hs : Stops p rest) :
    (ws ++ rest).takeWhile p = ws := by
  rw [List.takeWhile_append_of_pos hw]
  cases rest with
  | nil => simp
  | cons r rs => simp [hs r rfl]

theorem dropWhile_idem {α} (p : α → Bool) (xs : List α) : (xs.dropWhile p).dropWhile p = xs.dropWhile p :=
  dropWhile_of_stops (stops_dropWhile p xs)

theorem Stops.append {α} {p : α → Bool} {xs ys : List α} (hx : Stops p xs) (hne : xs ≠ []) : Stops p (xs ++ ys) := by
  cases xs with
  | nil => exact absurd rfl hne
  | cons x xs => exact Stops.cons (hx x rfl) _

end RT
end Spok
