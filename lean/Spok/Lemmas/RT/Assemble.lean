import Spok.Lemmas.LexTerm
import Spok.Lemmas.RT.ParseViews
import Spok.Lemmas.RT.Comment
import Spok.Lemmas.RT.Assign
import Spok.Lemmas.RT.Task
/-! # Round trip: assembling C06 from the lexing lemmas

`parseRunes_doc`: every admissible layout `Doc t txt` parses to exactly `t`.

Induction on `Doc`, generalised to an arbitrary lexer state at a statement boundary with arbitrary
tokens already emitted: the lexer reaches `.done` having emitted tokens whose views are
`vs₁ ++ vs₂ ++ … ++ [vEOF]` (`TreeViews`), on which the parser returns the tree (`parseLoop_tree`). -/
namespace Spok

theorem runF_mono : ∀ (f j : Nat) (l : L) (t : Tag), (runF f l t).2 = .done → runF (f + j) l t = runF f l t := by
  intro f
  induction f with
  | zero =>
    intro j l t h
    by_cases hf : t.final = true
    · rw [runF_final _ _ _ hf, runF_final _ _ _ hf]
    · simp [runF, hf] at h
  | succ f ih =>
    intro j l t h
    by_cases hf : t.final = true
    · rw [runF_final _ _ _ hf, runF_final _ _ _ hf]
    · have : f + 1 + j = (f + j) + 1 := by omega
      rw [this]
      simp only [runF, hf] at h ⊢
      exact ih j _ _ h

theorem lexRunes_of_reaches {rs : List Rune} {l' : L} (h : Reaches (L.init rs) .start l' .done) :
    lexRunes rs = ⟨l'.toks.toList, true⟩ := by
  obtain ⟨k, hk⟩ := h
  have := hk (3 * rs.length + 4)
  rw [runF_mono _ k _ _ (lexRunes_done rs), runF_final _ l' .done rfl] at this
  simp [lexRunes, this]

namespace Asm

/-! ## quote-freeness of what a layout spells -/

theorem argNQ {a : Arg} {txt : List Rune} (h : ArgText a txt) : a.NQ := by
  cases h with
  | str s hs => exact hs.1
  | ident n _ _ => trivial

theorem itemsNQ {args : List Arg} {txt : List Rune} (h : ItemsText args txt) : ArgsNQ args := by
  induction h with
  | last a txt ws ha _ => intro b hb; simp at hb; subst hb; exact argNQ ha
  | lastComma a txt ws ws2 ha _ _ => intro b hb; simp at hb; subst hb; exact argNQ ha
  | cons a txt ws ws2 as rest ha _ _ _ ih =>
    intro b hb
    simp at hb
    rcases hb with rfl | hb
    · exact argNQ ha
    · exact ih b hb

theorem parenNQ {args : List Arg} {p : List Rune} (h : ParenText args p) : ArgsNQ args := by
  cases h with
  | empty ws _ => intro b hb; cases hb
  | items ws args body _ hi => exact itemsNQ hi

theorem outsNQ {outs : List Arg} {o : List Rune} (h : OutsText outs o) : ArgsNQ outs := by
  cases h with
  | none ws _ => intro b hb; cases hb
  | single ws1 ws2 ws3 a txt _ _ ha _ => intro b hb; simp at hb; subst hb; exact argNQ ha
  | list ws1 ws2 ws3 args p _ _ _ _ hp => exact parenNQ hp

theorem stmtNQ {node : Node} {txt rest : List Rune} (h : StmtText node txt rest) : node.NQ := by
  cases h with
  | comment => trivial
  | assignStr n ws1 ws2 s b e rest _ _ _ _ _ hs _ _ => exact hs.1
  | assignCall n ws1 ws2 f ws3 args p rest _ _ _ _ _ _ _ _ hp _ => exact parenNQ hp
  | assignIdent => trivial
  | task doc d e ws0 ws1 name ws2 deps p outs o cmds b rest _ _ _ _ hp ho _ _ => exact ⟨parenNQ hp, outsNQ ho⟩

theorem lexStmt {node : Node} {txt rest : List Rune} (hst : StmtText node txt rest) {l : L} {t : Tag}
    (hat : AtStmt l t (txt ++ rest)) :
    ∃ l' t', Reaches l t l' t' ∧ AtStmt l' t' rest ∧ ∃ vs, StmtViews node vs ∧ views l' = views l ++ vs := by
  cases node with
  | comment c => exact lexStmt_comment (.comment c) txt rest trivial hst l t hat
  | assign n v => exact lexStmt_assign (.assign n v) txt rest trivial hst l t hat
  | task n d ds os cs => exact lexStmt_task (.task n d ds os cs) txt rest trivial hst l t hat

theorem atStmt_skip {l : L} {tag : Tag} {ws txt : List Rune} (hws : Ws ws) (h : AtStmt l tag (ws ++ txt)) :
    AtStmt l tag txt := by
  unfold AtStmt at h ⊢
  rw [List.dropWhile_append_of_pos hws] at h
  exact h

theorem lex_doc {t : Tree} {txt : List Rune} (h : Doc t txt) :
    ∀ (l : L) (tag : Tag), AtStmt l tag txt →
    ∃ l', Reaches l tag l' .done ∧ ∃ vs, TreeViews t vs ∧ views l' = views l ++ vs := by
  induction h with
  | nil ws hws =>
    intro l tag ⟨_, hat⟩
    have hnil : ws.dropWhile isSpace = [] := by simpa using List.dropWhile_append_of_pos (l₂ := []) hws
    rcases hat with ⟨rfl, hr⟩ | ⟨_, hr, r, tl, hr2, _⟩
    · obtain ⟨l', hR, _, _, hv⟩ := RT.goes_lexStart_eof (hr.trans hnil)
      exact ⟨l', hR, [vEOF], TreeViews.nil, hv⟩
    · rw [hnil] at hr; rw [hr] at hr2; cases hr2
  | cons ws node txt t rest hws hst _ hadj ih =>
    intro l tag hat
    obtain ⟨l1, t1, hr1, hat1, vs, hvs, hv1⟩ := lexStmt hst (atStmt_skip hws (by simpa [List.append_assoc] using hat))
    obtain ⟨l2, hr2, vs2, htv, hv2⟩ := ih l1 t1 hat1
    exact ⟨l2, hr1.trans hr2, vs ++ vs2, TreeViews.cons node vs t vs2 hvs (stmtNQ hst) htv hadj,
      by rw [hv2, hv1, List.append_assoc]⟩

end Asm

/-- a tree written out in any admissible layout is parsed back exactly (property C06) -/
theorem parseRunes_doc (t : Tree) (txt : List Rune) (hdoc : Doc t txt) : parseRunes txt = ⟨t, none⟩ := by
  obtain ⟨l', hr, vs, htv, hv⟩ := Asm.lex_doc hdoc (L.init txt) .start ⟨rfl, Or.inl ⟨rfl, rfl⟩⟩
  have hp := parseLoop_tree ⟨nLines txt⟩ htv l'.toks.toList (l'.toks.toList.length + 1) []
    (by simpa [views, L.init] using hv) (by omega)
  simp only [Array.length_toList] at hp
  simp [parseRunes, lexRunes_of_reaches hr, parseToks, hp]

end Spok
