import Spok.Lemmas.LexStep
import Spok.Lemmas.RT.Prim
/-! # Round trip: the state functions of the lexer on shaped input

One lemma per state function and branch, each in the chaining form `Go t rt tk t' rt' tk' vs` of `RT/Prim.lean`:
with `rt` ahead and `tk` in the token buffer, one iteration of the run loop leads from state `t` to state `t'`,
leaves `rt'` as remaining input and `tk'` in the token buffer, and emits the tokens `vs`.  (`lexStart` is met at a
statement boundary, where the scanner state matters: its lemmas are in the form `Goes l …`.)  Most state functions
absorb a piece of punctuation, skip white space (`punct_ws`) and then dispatch on one rune, which they either read
(`Goes.take`: the next state starts with that rune in its token buffer) or leave (`Goes.stay`).  For the two
long dispatchers, at the end of `lexIdent` and of `lexRightParen`, the next state is given as a function of the
text ahead (`identTag`, `rparenTag`). -/
namespace Spok
namespace RT

/-! ## `lexStart`, `lexHash`, `lexComment` -/

theorem goes_lexStart_hash {l : L} {r : Rune} {rs : List Rune} (hr : l.right.dropWhile isSpace = r :: rs)
    (hc : r.cp = HASH) : Goes l .start .hash (r :: rs) [] [] := by
  have hm : (skipWs l).right = r :: rs := by rw [skipWs_right, hr]
  exact Goes.step rfl (by simp [stepTag, lexStart, L.hasPrefix, hm, hc]) hm (by simp) (by simp)

theorem goes_lexStart_task {l : L} {r : Rune} {rs : List Rune} (hr : l.right.dropWhile isSpace = r :: rs)
    (hk : ((r :: rs).take 4).map (·.cp) = [116, 97, 115, 107]) : Goes l .start .taskKeyword (r :: rs) [] [] := by
  have hm : (skipWs l).right = r :: rs := by rw [skipWs_right, hr]
  have hc : r.cp = 116 := by simp at hk; exact hk.1
  have hk' : (skipWs l).hasPrefix [116, 97, 115, 107] = true := by rw [L.hasPrefix, hm]; simpa using hk
  have hh : (skipWs l).hasPrefix [HASH] = false := by rw [L.hasPrefix, hm]; simp [hc]
  exact Goes.step rfl (by simp [stepTag, lexStart, hk', hh]) hm (by simp) (by simp)

theorem goes_lexStart_ident {l : L} {r : Rune} {rs : List Rune} (hr : l.right.dropWhile isSpace = r :: rs)
    (hi : isIdent r = true) (hk : ((r :: rs).take 4).map (·.cp) ≠ [116, 97, 115, 107]) :
    Goes l .start .ident rs [r] [] := by
  have hm : (skipWs l).right = r :: rs := by rw [skipWs_right, hr]
  have hc : r.cp ≠ HASH := cp_ne_of_ident hi (by simp)
  have hk' : (skipWs l).hasPrefix [116, 97, 115, 107] = false := by rw [L.hasPrefix, hm]; simpa using hk
  have hh : (skipWs l).hasPrefix [HASH] = false := by rw [L.hasPrefix, hm]; simp [hc]
  exact Goes.take (m := ((skipWs l).peek).1) rfl (by simp [stepTag, lexStart, hk', hh, hm, hi]) (by simp [hm])
    (by simp) (by simp)

theorem goes_lexStart_eof {l : L} (hr : l.right.dropWhile isSpace = []) : Goes l .start .done [] [] [vEOF] := by
  have hm : (skipWs l).right = [] := by rw [skipWs_right, hr]
  exact Goes.step (l' := ((skipWs l).peek).1.emit .eof) rfl
    (by simp [stepTag, lexStart, L.hasPrefix, hm, L.atEOF, isIdent_eofRune]) (by simp [hm]) (by simp) (by simp [vEOF])

theorem go_lexHash {r : Rune} {rs : List Rune} : Go .hash (r :: rs) [] .comment rs [] [(.hash, [r])] := fun l hr hk =>
  Goes.step (l' := (l.absorb 1).emit .hash) rfl (by simp [stepTag, lexHash, L.atEOF, hr]) (by simp [hr]) (by simp)
    (by simp [hr, hk])

theorem go_lexComment {c tail : List Rune} (hc : CommentOK c) (ht : tail = [] ∨ startsEol tail = true)
    (hcr : endsWithCp c CR = true → ∀ r, tail.head? = some r → r.cp ≠ NL) :
    Go .comment (c ++ tail) [] .start tail [] [(.comment, c)] := by
  intro l hr hk
  obtain ⟨h1, h2, h3⟩ := scanComment_spec hr hc ht hcr
  exact Goes.step (l' := (scanComment l).emit .comment) rfl rfl (by simpa using h1) (by simp)
    (by simp [h2, hk, views_of_toks h3])

/-! ## `lexIdent` -/

theorem stops_ident_ws_append {ws after : List Rune} (hw : Ws ws) (ha : Stops isIdent after) : Stops isIdent (ws ++ after) := by
  cases ws with
  | nil => simpa using ha
  | cons w ws => exact Stops.cons (isSpace_not_ident (hw w (by simp))) _

def declAhead (after : List Rune) : Bool := (after.take 2).map (·.cp) == [COLON, EQUALS]

/-- where `lexIdent` goes, given what follows the identifier and the white space after it -/
def identTag (after : List Rune) : Tag :=
  match after with
  | [] => .start
  | r :: _ =>
    if r.cp = LPAREN then .leftParen
    else if declAhead after then .declare
    else if r.cp = RPAREN then .rightParen
    else if r.cp = COMMA then .comma
    else if r.cp = LBRACE then .leftBrace
    else .done

/-- the dispatch at the end of `lexIdent`: a copy of `lexIdent` (`Syntax/Lexer.lean`) behind its `skipWs`, which
    `go_lexIdent` identifies with the original by `show`/`rfl`: that step fails when the two drift apart -/
def identTail (l : L) : L × Tag :=
  let (l, r) := l.peek
  if r.cp == LPAREN then (l, .leftParen)
  else if l.hasPrefix [COLON, EQUALS] then (l, .declare)
  else
    let (l, eol) := l.atEOL
    if eol || l.atEOF then (l, .start)
    else
      let (l, r) := l.peek
      if r.cp == RPAREN then (l, .rightParen)
      else if r.cp == COMMA then (l, .comma)
      else if r.cp == LBRACE then (l, .leftBrace)
      else l.error

theorem identTail_spec {m : L} {after : List Rune} (hm : m.right = after) (hs : Stops isSpace after)
    (ht : identTag after ≠ .done) :
    (identTail m).2 = identTag after ∧ (identTail m).1.right = after ∧ (identTail m).1.tokRev = m.tokRev ∧
    (identTail m).1.toks = m.toks := by
  have hse := startsEol_of_head hs
  subst hm
  cases hr : m.right with
  | nil =>
    simp [identTail, identTag, hr, L.hasPrefix, L.atEOL_snd, startsEol, L.atEOF]
  | cons r rs =>
    rw [hr] at hse ht
    unfold identTag at ht ⊢
    unfold identTail
    by_cases h1 : r.cp = LPAREN
    · simp [hr, h1]
    · have hp : m.hasPrefix [COLON, EQUALS] = declAhead (r :: rs) := by rw [L.hasPrefix, hr]; rfl
      by_cases h2 : declAhead (r :: rs) = true
      · simp [hr, h1, hp, h2]
      · by_cases h3 : r.cp = RPAREN
        · simp [hr, h2, hp, h3, hse, L.atEOF]
        · by_cases h4 : r.cp = COMMA
          · simp [hr, h2, hp, h4, hse, L.atEOF]
          · by_cases h5 : r.cp = LBRACE
            · simp [hr, h2, hp, h5, hse, L.atEOF]
            · simp [h1, h2, h3, h4, h5] at ht

theorem go_lexIdent {n ws after k : List Rune} (hn : IdentRunes n) (hw : Ws ws) (hs : Stops isSpace after)
    (hi : Stops isIdent after) (ht : identTag after ≠ .done) :
    Go .ident (n ++ (ws ++ after)) k (identTag after) after [] [(.ident, k.reverse ++ n)] := by
  intro l hr hk
  obtain ⟨h1, h2⟩ := scanIdent_spec hr hn (stops_ident_ws_append hw hi)
  have hm : (skipWs ((scanIdent l).emit .ident)).right = after :=
    skipWs_right_ws (ws := ws) (by simpa using h1) hw hs
  obtain ⟨e1, e2, e3, e4⟩ := identTail_spec hm hs ht
  refine Goes.step (l' := (identTail (skipWs ((scanIdent l).emit .ident))).1) rfl ?_ e2 (by rw [e3]; simp) ?_
  · show identTail _ = _
    rw [← e1]
  · rw [views_of_toks e4]; simp [h2, hk]

theorem go_word {r0 : Rune} {n ws after : List Rune} {t : Tag} (hn : IdentRunes (r0 :: n)) (hw : Ws ws)
    (hs : Stops isSpace after) (hi : Stops isIdent after) (ht : identTag after = t) (hd : t ≠ .done) :
    Go .ident (n ++ (ws ++ after)) [r0] t after [] [(.ident, r0 :: n)] := by
  subst ht
  exact (go_lexIdent (fun x hx => hn x (by simp [hx])) hw hs hi hd).views (by simp)

/-! ## `lexDeclare`, `lexDeclString` -/

theorem lexDeclare_mid {l : L} {c1 c2 : Rune} {ws after : List Rune} (hr : l.right = c1 :: c2 :: (ws ++ after))
    (h1 : isSpace c1 = false) (hw : Ws ws) (hs : Stops isSpace after) :
    (skipWs l).atEOF = false ∧ (skipWs (((skipWs l).absorb 2).emit .declare)).right = after ∧
    views (skipWs (((skipWs l).absorb 2).emit .declare)) = views l ++ [(.declare, [c1, c2])] := by
  have h0 : (skipWs l).right = c1 :: c2 :: (ws ++ after) := by rw [skipWs_right, hr]; simp [h1]
  obtain ⟨hm, hv⟩ := punct_ws (l := skipWs l) (p := [c1, c2]) (n := 2) .declare rfl h0 (by simp) hw hs
  exact ⟨by simp [L.atEOF, h0], hm, by simpa using hv⟩

theorem go_lexDeclare_string {c1 c2 r : Rune} {ws rs k : List Rune} (h1 : isSpace c1 = false) (hw : Ws ws)
    (hq : r.cp = QUOTE) : Go .declare (c1 :: c2 :: (ws ++ r :: rs)) k .declString rs [r] [(.declare, [c1, c2])] := by
  intro l hr _
  obtain ⟨h0, hm, hv⟩ := lexDeclare_mid hr h1 hw (Stops.cons (not_space_of_cp hq (by simp)) rs)
  exact Goes.take rfl (by simp [stepTag, lexDeclare, h0, hm, hq]) hm (by simp) hv

theorem go_lexDeclare_ident {c1 c2 r : Rune} {ws rs k : List Rune} (h1 : isSpace c1 = false) (hw : Ws ws)
    (hi : isIdent r = true) : Go .declare (c1 :: c2 :: (ws ++ r :: rs)) k .ident rs [r] [(.declare, [c1, c2])] := by
  intro l hr _
  obtain ⟨h0, hm, hv⟩ := lexDeclare_mid hr h1 hw (Stops.cons (isIdent_not_space hi) rs)
  have hq : r.cp ≠ QUOTE := cp_ne_of_ident hi (by simp)
  exact Goes.take rfl (by simp [stepTag, lexDeclare, h0, hm, hq, hi]) hm (by simp) hv

theorem stops_blank_of_eol {tail : List Rune} (ht : tail = [] ∨ startsEol tail = true) : Stops isBlank tail := by
  cases tail with
  | nil => exact Stops.nil _
  | cons r rs =>
    rcases ht with ht | ht
    · cases ht
    · refine Stops.cons ?_ _
      simp only [startsEol, Bool.or_eq_true, Bool.and_eq_true, beq_iff_eq] at ht
      rcases ht with ht | ⟨ht, _⟩ <;> simp [isBlank, ht]

theorem lexDeclString_ok {l l' : L} (h : scanString l = .ok l') : lexDeclString l =
    if (declTail (l'.emit .string)).atEOF then (declTail (l'.emit .string), .start)
    else if ((declTail (l'.emit .string)).atEOL).2 then (((declTail (l'.emit .string)).atEOL).1, .start)
    else ((declTail (l'.emit .string)).atEOL).1.error := by
  rw [lexDeclString, h]; rfl

theorem go_lexDeclString {s b tail k : List Rune} {q : Rune} (hok : StrOK s) (hq : q.cp = QUOTE) (hb : Blanks b)
    (ht : tail = [] ∨ startsEol tail = true) :
    Go .declString (s ++ q :: (b ++ tail)) k .start tail [] [(.string, k.reverse ++ s ++ [q])] := by
  intro l hr hk
  obtain ⟨l1, h1, h2, h3, h4⟩ := scanString_spec hr hok hq
  obtain ⟨m, r, e⟩ := declTail_reads (l1.emit .string)
  have hm : (declTail (l1.emit .string)).right = tail := by
    rw [e, L.discard_right, takeWhile_dropWhile_cancel r.right, L.emit_right, h2]
    exact dropWhile_append_stops (fun x hx => by simpa [isBlank] using hb x hx) (stops_blank_of_eol ht)
  have hv : views (declTail (l1.emit .string)) = views l ++ [(.string, k.reverse ++ s ++ [q])] := by
    rw [e, views_discard, views_of_toks r.toks]; simp [h3, hk, views_of_toks h4]
  have eq := lexDeclString_ok h1
  rcases ht with rfl | ht
  · rw [if_pos (by simp [hm])] at eq
    exact Goes.step rfl eq hm (by rw [e]; rfl) hv
  · have hne : tail ≠ [] := by rintro rfl; cases ht
    rw [if_neg (by simp [hm, hne]), if_pos (by rw [L.atEOL_snd, hm]; exact ht)] at eq
    exact Goes.step rfl eq (by simpa using hm) (by rw [L.atEOL_fst, L.peek_tokRev, e]; rfl) (by simpa using hv)

/-! ## `lexLeftParen`, `lexArgs`, `lexComma`, `lexString` -/

theorem go_lexLeftParen {r : Rune} {ws after : List Rune} (hw : Ws ws) (hs : Stops isSpace after) :
    Go .leftParen (r :: (ws ++ after)) [] .args after [] [(.lparen, [r])] := by
  intro l hr hk
  obtain ⟨hm, hv⟩ := punct_ws (p := [r]) (n := 1) .lparen rfl hr hk hw hs
  exact Goes.step rfl (by simp [stepTag, lexLeftParen, L.atEOF, hr]) hm (by simp) hv

/-- the state an argument is lexed in, by its first rune (which the dispatching state function has consumed) -/
def runeTag (r : Rune) : Tag := if r.cp = QUOTE then .string else .ident

theorem space_of_arg_head {r0 : Rune} (h : r0.cp = QUOTE ∨ isIdent r0 = true) : isSpace r0 = false :=
  h.elim (fun h => not_space_of_cp h (by simp)) isIdent_not_space

theorem go_lexArgs_arg {r0 : Rune} {rs k : List Rune} (h : r0.cp = QUOTE ∨ isIdent r0 = true) :
    Go .args (r0 :: rs) k (runeTag r0) rs [r0] [] := by
  intro l hr _
  have hm : (skipWs l).right = r0 :: rs := by rw [skipWs_right, hr]; simp [space_of_arg_head h]
  refine Goes.take rfl ?_ hm (by simp) (by simp)
  rcases h with h | h
  · simp [stepTag, lexArgs, hm, runeTag, h]
  · have h1 : r0.cp ≠ RPAREN := cp_ne_of_ident h (by simp)
    have h2 : r0.cp ≠ QUOTE := cp_ne_of_ident h (by simp)
    simp [stepTag, lexArgs, hm, runeTag, h, h1, h2]

theorem go_lexComma_arg {c r0 : Rune} {ws rs : List Rune} (hw : Ws ws) (h : r0.cp = QUOTE ∨ isIdent r0 = true) :
    Go .comma (c :: (ws ++ r0 :: rs)) [] (runeTag r0) rs [r0] [(.comma, [c])] := by
  intro l hr hk
  obtain ⟨hm, hv⟩ := punct_ws (p := [c]) (n := 1) .comma rfl hr hk hw (Stops.cons (space_of_arg_head h) rs)
  refine Goes.take rfl ?_ hm (by simp) hv
  rcases h with h | h
  · simp [stepTag, lexComma, L.atEOF, hr, hm, runeTag, h]
  · have hq : r0.cp ≠ QUOTE := cp_ne_of_ident h (by simp)
    simp [stepTag, lexComma, L.atEOF, hr, hm, runeTag, h, hq]

theorem go_lexComma_rparen {c r : Rune} {ws rs : List Rune} (hw : Ws ws) (hc : r.cp = RPAREN) :
    Go .comma (c :: (ws ++ r :: rs)) [] .rightParen (r :: rs) [] [(.comma, [c])] := by
  intro l hr hk
  obtain ⟨hm, hv⟩ := punct_ws (p := [c]) (n := 1) .comma rfl hr hk hw (Stops.cons (not_space_of_cp hc (by simp)) rs)
  have hi : isIdent r = false := not_ident_of_cp hc (by simp)
  exact Goes.stay rfl (by simp [stepTag, lexComma, L.atEOF, hr, hm, hc, hi]) hm (by simp) hv

theorem go_lexString {s tail k : List Rune} {q : Rune} (hok : StrOK s) (hq : q.cp = QUOTE) (hne : tail ≠ [])
    (ht : startsEol tail = false) : Go .string (s ++ q :: tail) k .args tail [] [(.string, k.reverse ++ s ++ [q])] := by
  intro l hr hk
  obtain ⟨l1, h1, h2, h3, h4⟩ := scanString_spec hr hok hq
  have e : lexString l = (((l1.emit .string).atEOL).1, .args) := by
    simp [lexString, h1, L.atEOF, h2, hne, L.atEOL_snd, ht]
  exact Goes.step rfl e (by simpa using h2) (by simp) (by simp [h3, hk, views_of_toks h4])

/-! ## `lexRightParen` -/

def arrowAhead (after : List Rune) : Bool := (after.take 2).map (·.cp) == [MINUS, GT]

/-- where `lexRightParen` goes, given what follows the parenthesis and the white space after it -/
def rparenTag (after : List Rune) : Tag :=
  match after with
  | [] => .start
  | r :: _ =>
    if r.cp = LBRACE then .leftBrace
    else if arrowAhead after then .outputOp
    else if isIdent r then .start
    else if r.cp = HASH then .hash
    else .done

/-- the dispatch at the end of `lexRightParen`: a copy of `lexRightParen` (`Syntax/Lexer.lean`) behind its `skipWs`,
    identified with the original by unfolding and `rfl` in `go_lexRightParen`: that step fails when the two drift apart -/
def rparenTail (l : L) : L × Tag :=
  let (l, r) := l.peek
  if r.cp == LBRACE then (l, .leftBrace)
  else if l.hasPrefix [MINUS, GT] then (l, .outputOp)
  else
    let (l, eol) := l.atEOL
    if eol || l.atEOF || isIdent r then (l, .start)
    else if r.cp == HASH then (l, .hash)
    else l.error

theorem rparenTail_spec {m : L} {after : List Rune} (hm : m.right = after) (hs : Stops isSpace after)
    (ht : rparenTag after ≠ .done) :
    (rparenTail m).2 = rparenTag after ∧ (rparenTail m).1.right = after ∧ (rparenTail m).1.tokRev = m.tokRev ∧
    (rparenTail m).1.toks = m.toks := by
  have hse := startsEol_of_head hs
  subst hm
  cases hr : m.right with
  | nil =>
    simp [rparenTail, rparenTag, hr, L.hasPrefix, L.atEOL_snd, startsEol, L.atEOF]
  | cons r rs =>
    rw [hr] at hse ht
    unfold rparenTag at ht ⊢
    unfold rparenTail
    by_cases h1 : r.cp = LBRACE
    · simp [hr, h1]
    · have hp : m.hasPrefix [MINUS, GT] = arrowAhead (r :: rs) := by rw [L.hasPrefix, hr]; rfl
      by_cases h2 : arrowAhead (r :: rs) = true
      · simp [hr, h1, hp, h2]
      · by_cases h3 : isIdent r = true
        · simp [hr, h1, h2, hp, h3, hse, L.atEOF]
        · by_cases h4 : r.cp = HASH
          · simp [hr, h2, hp, h3, h4, hse, L.atEOF]
          · simp [h1, h2, h3, h4] at ht

theorem go_lexRightParen {r : Rune} {ws after : List Rune} (hw : Ws ws) (hs : Stops isSpace after)
    (ht : rparenTag after ≠ .done) : Go .rightParen (r :: (ws ++ after)) [] (rparenTag after) after [] [(.rparen, [r])] := by
  intro l hr hk
  obtain ⟨hm, hv⟩ := punct_ws (p := [r]) (n := 1) .rparen rfl hr hk hw hs
  obtain ⟨e1, e2, e3, e4⟩ := rparenTail_spec hm hs ht
  have e : lexRightParen l = rparenTail (skipWs ((l.absorb 1).emit .rparen)) := by
    have : l.atEOF = false := by simp [L.atEOF, hr]
    unfold lexRightParen rparenTail
    simp only [this]
    rfl
  refine Goes.step (l' := (rparenTail (skipWs ((l.absorb 1).emit .rparen))).1) rfl ?_ e2 (by rw [e3]; simp)
    (by rw [views_of_toks e4, hv])
  show lexRightParen l = _
  rw [e, ← e1]

theorem go_lexRightParen_lbrace {r : Rune} {ws more : List Rune} (hw : Ws ws) :
    Go .rightParen (r :: (ws ++ asc LBRACE :: more)) [] .leftBrace (asc LBRACE :: more) [] [(.rparen, [r])] := by
  simpa [rparenTag] using go_lexRightParen (r := r) (after := asc LBRACE :: more) hw (Stops.cons (by simp) _)
    (by simp [rparenTag])

theorem go_lexRightParen_arrow {r : Rune} {ws more : List Rune} (hw : Ws ws) :
    Go .rightParen (r :: (ws ++ asc MINUS :: asc GT :: more)) [] .outputOp (asc MINUS :: asc GT :: more) []
      [(.rparen, [r])] := by
  simpa [rparenTag, arrowAhead] using go_lexRightParen (r := r) (after := asc MINUS :: asc GT :: more) hw
    (Stops.cons (by simp) _) (by simp [rparenTag, arrowAhead])

/-! ## the state functions that only occur in tasks -/

theorem go_lexTaskKeyword {kw ws after : List Rune} (hl : kw.length = 4) (hw : Ws ws) (hs : Stops isSpace after) :
    Go .taskKeyword (kw ++ (ws ++ after)) [] .taskName after [] [(.task, kw)] := by
  intro l hr hk
  obtain ⟨hm, hv⟩ := punct_ws .task hl hr hk hw hs
  have hne : l.atEOF = false := by cases kw with | nil => cases hl | cons a k => simp [L.atEOF, hr]
  exact Goes.step rfl (by simp [stepTag, lexTaskKeyword, hne]) hm (by simp) hv

/-- the name may be empty -/
theorem go_lexTaskName {n ws rs : List Rune} {r : Rune} (hn : IdentRunes n) (hw : Ws ws) (hc : r.cp = LPAREN) :
    Go .taskName (n ++ (ws ++ r :: rs)) [] .leftParen (r :: rs) [] [(.ident, n)] := by
  intro l hr hk
  obtain ⟨h1, h2⟩ := scanIdent_spec hr hn (stops_ident_ws_append hw (Stops.cons (not_ident_of_cp hc (by simp)) _))
  have hm : (skipWs ((scanIdent l).emit .ident)).right = r :: rs :=
    skipWs_right_ws (ws := ws) (by simpa using h1) hw (Stops.cons (not_space_of_cp hc (by simp)) _)
  exact Goes.step (l' := ((skipWs ((scanIdent l).emit .ident)).peek).1) rfl (by simp [stepTag, lexTaskName, hm, hc])
    (by simpa using hm) (by simp) (by simp [h2, hk])

theorem go_lexOutputOp_arg {c1 c2 r0 : Rune} {ws rs : List Rune} (hw : Ws ws) (h : r0.cp = QUOTE ∨ isIdent r0 = true) :
    Go .outputOp (c1 :: c2 :: (ws ++ r0 :: rs)) [] (runeTag r0) rs [r0] [(.output, [c1, c2])] := by
  intro l hr hk
  obtain ⟨hm, hv⟩ := punct_ws (p := [c1, c2]) (n := 2) .output rfl hr hk hw
    (Stops.cons (space_of_arg_head h) rs)
  refine Goes.take rfl ?_ hm (by simp) hv
  rcases h with h | h
  · simp [stepTag, lexOutputOp, L.atEOF, hr, hm, runeTag, h]
  · have h1 : r0.cp ≠ QUOTE := cp_ne_of_ident h (by simp)
    have h2 : r0.cp ≠ LPAREN := cp_ne_of_ident h (by simp)
    simp [stepTag, lexOutputOp, L.atEOF, hr, hm, runeTag, h, h1, h2]

theorem go_lexOutputOp_paren {c1 c2 r : Rune} {ws rs : List Rune} (hw : Ws ws) (hc : r.cp = LPAREN) :
    Go .outputOp (c1 :: c2 :: (ws ++ r :: rs)) [] .leftParen (r :: rs) [] [(.output, [c1, c2])] := by
  intro l hr hk
  obtain ⟨hm, hv⟩ := punct_ws (p := [c1, c2]) (n := 2) .output rfl hr hk hw
    (Stops.cons (not_space_of_cp hc (by simp)) rs)
  exact Goes.stay rfl (by simp [stepTag, lexOutputOp, L.atEOF, hr, hm, hc]) hm (by simp) hv

theorem go_lexLeftBrace {r : Rune} {ws after : List Rune} (hw : Ws ws) (hs : Stops isSpace after) :
    Go .leftBrace (r :: (ws ++ after)) [] .taskBody after [] [(.lbrace, [r])] := by
  intro l hr hk
  obtain ⟨hm, hv⟩ := punct_ws (p := [r]) (n := 1) .lbrace rfl hr hk hw hs
  exact Goes.step rfl (by simp [stepTag, lexLeftBrace, L.atEOF, hr]) hm (by simp) hv

theorem go_lexTaskBody_close {r : Rune} {rs k : List Rune} (hc : r.cp = RBRACE) :
    Go .taskBody (r :: rs) k .rightBrace (r :: rs) [] [] := by
  intro l hr _
  have hm : (skipWs l).right = r :: rs := by rw [skipWs_right, hr]; simp [not_space_of_cp hc (by simp)]
  exact Goes.stay rfl (by simp [stepTag, lexTaskBody, L.atEOF, hr, hm, hc]) hm (by simp) (by simp)

theorem go_lexRightBrace {r : Rune} {rs : List Rune} : Go .rightBrace (r :: rs) [] .start rs [] [(.rbrace, [r])] :=
  fun l hr hk => Goes.step (l' := (l.absorb 1).emit .rbrace) rfl (by simp [stepTag, lexRightBrace, L.atEOF, hr]) (by simp [hr])
    (by simp) (by simp [hr, hk])

/-! ## one argument -/

/-- what may follow an argument and the white space after it, and the state the lexer is in then -/
def ArgStop (after : List Rune) (t : Tag) : Prop :=
  ∃ r rs, after = r :: rs ∧ ((r.cp = RPAREN ∧ t = .rightParen) ∨ (r.cp = COMMA ∧ t = .comma) ∨ (r.cp = LBRACE ∧ t = .leftBrace))

theorem argText_head {a : Arg} {txt : List Rune} (h : ArgText a txt) :
    ∃ r0 txt', txt = r0 :: txt' ∧ ((r0.cp = QUOTE) ∨ isIdent r0 = true) := by
  cases h with
  | str s hs => exact ⟨_, _, rfl, Or.inl rfl⟩
  | ident _ hne hn =>
    cases txt with
    | nil => exact absurd rfl hne
    | cons r n => exact ⟨r, n, rfl, Or.inr (hn r (by simp))⟩

theorem startsEol_ws_append {ws after : List Rune} (hw : startsEol ws = false) (ha : Stops isSpace after) :
    startsEol (ws ++ after) = false := by
  cases ws with
  | nil => simpa using startsEol_of_head ha
  | cons w ws =>
    cases ws with
    | nil =>
      cases after with
      | nil => simpa using hw
      | cons x xs =>
        have hx := ha x rfl
        have : x.cp ≠ NL := fun he => by rw [isSpace_eq, he] at hx; simp at hx
        simp [startsEol] at hw ⊢
        simp [hw, this]
    | cons w2 ws => simpa [startsEol] using hw

theorem ArgStop.stops_space {after : List Rune} {t : Tag} (h : ArgStop after t) : Stops isSpace after := by
  obtain ⟨r, rs, rfl, h⟩ := h
  refine Stops.cons ?_ _
  rcases h with ⟨h, _⟩ | ⟨h, _⟩ | ⟨h, _⟩ <;> exact not_space_of_cp h (by simp)

theorem ArgStop.stops_ident {after : List Rune} {t : Tag} (h : ArgStop after t) : Stops isIdent after := by
  obtain ⟨r, rs, rfl, h⟩ := h
  refine Stops.cons ?_ _
  rcases h with ⟨h, _⟩ | ⟨h, _⟩ | ⟨h, _⟩ <;> exact not_ident_of_cp h (by simp)

theorem ArgStop.identTag {after : List Rune} {t : Tag} (h : ArgStop after t) : identTag after = t := by
  obtain ⟨r, rs, rfl, h⟩ := h
  rcases h with ⟨h, rfl⟩ | ⟨h, rfl⟩ | ⟨h, rfl⟩ <;> simp [RT.identTag, declAhead, h]

theorem ArgStop.ne_done {after : List Rune} {t : Tag} (h : ArgStop after t) : t ≠ .done := by
  obtain ⟨r, rs, rfl, h⟩ := h
  rcases h with ⟨h, rfl⟩ | ⟨h, rfl⟩ | ⟨h, rfl⟩ <;> simp

theorem go_lexArgs_stop {ws after k : List Rune} {t : Tag} (hw : Ws ws) (h : ArgStop after t) :
    Go .args (ws ++ after) k t after [] [] := by
  intro l hr _
  have hm : (skipWs l).right = after := skipWs_right_ws hr hw h.stops_space
  have hi := h.stops_ident
  obtain ⟨r, rs, rfl, h⟩ := h
  have hi : isIdent r = false := hi r rfl
  rcases h with ⟨h, rfl⟩ | ⟨h, rfl⟩ | ⟨h, rfl⟩ <;>
    exact Goes.stay rfl (by simp [stepTag, lexArgs, hm, h, hi]) hm (by simp) (by simp)

/-- Lexing one argument whose first rune `r0` has just been consumed by the dispatching state function: the
    argument's token is emitted and the lexer stands in front of what follows the white space after it. -/
theorem go_arg {a : Arg} {r0 : Rune} {txt ws after : List Rune} {t : Tag} (ha : ArgText a (r0 :: txt)) (hws : AfterArg a ws)
    (hstop : ArgStop after t) : Go (runeTag r0) (txt ++ (ws ++ after)) [r0] t after [] [argView a] := by
  generalize htxt : r0 :: txt = txt0 at ha
  cases ha with
  | str s hs =>
    obtain ⟨rfl, rfl⟩ : r0 = asc QUOTE ∧ txt = s ++ [asc QUOTE] := by simpa using htxt
    have hne : ws ++ after ≠ [] := by obtain ⟨r, rs, rfl, _⟩ := hstop; simp
    simp only [List.append_assoc, List.cons_append, List.nil_append]
    exact ((go_lexString (k := [asc QUOTE]) hs rfl hne (startsEol_ws_append hws.2 hstop.stops_space)).trans
      (go_lexArgs_stop hws.1 hstop)).views (by simp [argView])
  | ident n hne hn =>
    subst htxt
    have hq : r0.cp ≠ QUOTE := cp_ne_of_ident (hn r0 (by simp)) (by simp)
    simpa [runeTag, hq, argView] using go_word hn hws hstop.stops_space hstop.stops_ident hstop.identTag hstop.ne_done

/-! ## statement boundaries -/

theorem atStmt_cases {l : L} {t : Tag} {r : Rune} {more : List Rune} (hat : AtStmt l t (r :: more)) (hs : isSpace r = false) :
    (t = .start ∧ l.right.dropWhile isSpace = r :: more) ∨ (t = .hash ∧ l.right = r :: more ∧ r.cp = HASH) := by
  rcases hat.2 with ⟨rfl, hr⟩ | ⟨rfl, hr, r', tl, hr', hc'⟩
  · exact Or.inl ⟨rfl, by rw [hr]; simp [hs]⟩
  · have e : l.right = r :: more := by rw [hr]; simp [hs]
    rw [e] at hr'
    exact Or.inr ⟨rfl, e, by cases hr'; exact hc'⟩

theorem goes_enter_hash {l : L} {t : Tag} {h : Rune} {more : List Rune} (hat : AtStmt l t (h :: more)) (hc : h.cp = HASH) :
    Goes l t .hash (h :: more) [] [] := by
  rcases atStmt_cases hat (not_space_of_cp hc (by simp)) with ⟨rfl, hr⟩ | ⟨rfl, hr, _⟩
  · exact goes_lexStart_hash hr hc
  · exact ⟨l, Reaches.refl l _, hr, hat.1, by simp⟩

theorem goes_enter_ident {l : L} {t : Tag} {r : Rune} {more : List Rune} (hat : AtStmt l t (r :: more))
    (hi : isIdent r = true) (hk : ((r :: more).take 4).map (·.cp) ≠ [116, 97, 115, 107]) :
    Goes l t .ident more [r] [] := by
  rcases atStmt_cases hat (isIdent_not_space hi) with ⟨rfl, hr⟩ | ⟨_, _, hc⟩
  · exact goes_lexStart_ident hr hi hk
  · exact absurd hc (cp_ne_of_ident hi (by simp))

theorem goes_enter_task {l : L} {t : Tag} {r : Rune} {more : List Rune} (hat : AtStmt l t (r :: more))
    (hk : ((r :: more).take 4).map (·.cp) = [116, 97, 115, 107]) : Goes l t .taskKeyword (r :: more) [] [] := by
  have hc : r.cp = 116 := by simp at hk; exact hk.1
  rcases atStmt_cases hat (not_space_of_cp hc (by decide)) with ⟨rfl, hr⟩ | ⟨_, _, hc'⟩
  · exact goes_lexStart_task hr hk
  · rw [hc] at hc'; cases hc'

theorem atStmt_start {l : L} {ws rest : List Rune} (hk : l.tokRev = []) (hr : l.right = ws ++ rest) (hw : Ws ws) :
    AtStmt l .start rest := ⟨hk, Or.inl ⟨rfl, by rw [hr, List.dropWhile_append_of_pos hw]⟩⟩

end RT
end Spok
