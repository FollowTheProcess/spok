import Spok.Syntax.Render
import Spok.Lemmas.CharClass
import Spok.Lemmas.RT.Lists
/-! # Round trip: `trimSpace` (the model of `strings.TrimSpace`) and the comment normalisation

`trimSpace s` keeps only runes of `s`, begins and ends with a non-space rune (if it is not empty), is
idempotent, and ignores leading whitespace.  From these: `normComment` is stable under the formatter's
re-spelling. -/
namespace Spok
namespace Trim
open RT (stops_dropWhile dropWhile_of_stops)

def rtrim (s : List Rune) : List Rune := (s.reverse.dropWhile isSpace).reverse

theorem trimSpace_eq (s : List Rune) : trimSpace s = rtrim (s.dropWhile isSpace) := rfl

theorem rtrim_mem {s : List Rune} {r : Rune} (h : r ∈ rtrim s) : r ∈ s := by
  unfold rtrim at h
  rw [List.mem_reverse] at h
  have := (List.dropWhile_sublist (l := s.reverse) isSpace).subset h
  simpa using this

theorem rtrim_last {s : List Rune} {r : Rune} (h : (rtrim s).getLast? = some r) : isSpace r = false := by
  unfold rtrim at h
  rw [List.getLast?_reverse] at h
  exact stops_dropWhile _ _ r h

theorem rtrim_self {s : List Rune} (h : ∀ r, s.getLast? = some r → isSpace r = false) : rtrim s = s := by
  unfold rtrim
  rw [dropWhile_of_stops (by unfold RT.Stops; rw [List.head?_reverse]; exact h)]
  simp

theorem dropWhile_append_last {α} (p : α → Bool) (h : α) (hp : p h = false) :
    ∀ zs : List α, ∃ w, (zs ++ [h]).dropWhile p = w ++ [h] := by
  intro zs
  induction zs with
  | nil => exact ⟨[], by simp [hp]⟩
  | cons z zs ih =>
    by_cases hz : p z = true
    · obtain ⟨w, hw⟩ := ih
      exact ⟨w, by simp [hz, hw]⟩
    · exact ⟨z :: zs, by simp [hz]⟩

theorem rtrim_head {h : Rune} {tl : List Rune} (hp : isSpace h = false) : ∃ tl', rtrim (h :: tl) = h :: tl' := by
  unfold rtrim
  obtain ⟨w, hw⟩ := dropWhile_append_last isSpace h hp tl.reverse
  rw [List.reverse_cons, hw]
  exact ⟨w.reverse, by simp⟩

theorem trimSpace_head (s : List Rune) : ∀ r, (trimSpace s).head? = some r → isSpace r = false := by
  intro r hr
  rw [trimSpace_eq] at hr
  cases hd : s.dropWhile isSpace with
  | nil => rw [hd] at hr; cases hr
  | cons h tl =>
    have hh : isSpace h = false := stops_dropWhile isSpace s h (by rw [hd]; rfl)
    obtain ⟨tl', ht⟩ := rtrim_head (tl := tl) hh
    rw [hd, ht] at hr
    cases hr
    exact hh

end Trim

open Trim

theorem trimSpace_last {s : List Rune} {r : Rune} (h : (trimSpace s).getLast? = some r) : isSpace r = false :=
  rtrim_last h

theorem trimSpace_mem {s : List Rune} {r : Rune} (h : r ∈ trimSpace s) : r ∈ s := by
  exact (List.dropWhile_sublist (l := s) isSpace).subset (rtrim_mem h)

theorem trimSpace_split (t : List Rune) : ∃ ws1 ws2, t = ws1 ++ trimSpace t ++ ws2 ∧ ∀ r ∈ ws2, isSpace r = true := by
  refine ⟨t.takeWhile isSpace, ((t.dropWhile isSpace).reverse.takeWhile isSpace).reverse, ?_,
    fun r hr => List.all_eq_true.mp List.all_takeWhile r (List.mem_reverse.mp hr)⟩
  rw [List.append_assoc, trimSpace, ← List.reverse_append, List.takeWhile_append_dropWhile, List.reverse_reverse,
    List.takeWhile_append_dropWhile]

theorem trimSpace_nil : trimSpace [] = [] := rfl

theorem trimSpace_cons_space {r : Rune} (h : isSpace r = true) (s : List Rune) : trimSpace (r :: s) = trimSpace s := by
  simp [trimSpace, h]

theorem trimSpace_idem (s : List Rune) : trimSpace (trimSpace s) = trimSpace s := by
  rw [trimSpace_eq (trimSpace s), RT.dropWhile_of_stops (trimSpace_head s)]
  exact rtrim_self (fun r hr => trimSpace_last hr)

/-- the formatter's re-spelling ` ` + trimmed text trims to the same text -/
theorem trimSpace_respell (c : List Rune) : trimSpace (asc SP :: trimSpace c) = trimSpace c := by
  rw [trimSpace_cons_space isSpace_SP, trimSpace_idem]

theorem normComment_nil : normComment [] = [] := rfl

theorem normComment_ne {c : List Rune} (h : c ≠ []) : normComment c = asc SP :: trimSpace c := by
  cases c with
  | nil => exact absurd rfl h
  | cons a c => rfl

theorem normComment_isEmpty (c : List Rune) : (normComment c).isEmpty = c.isEmpty := by
  cases c <;> rfl

theorem trimSpace_normComment (c : List Rune) : trimSpace (normComment c) = trimSpace c := by
  cases c with
  | nil => rfl
  | cons a c => exact trimSpace_respell (a :: c)

end Spok
