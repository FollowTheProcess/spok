import Spok.Syntax.Render
/-! # Round trip: shared definitions

What the lexing lemmas (`RT/States` … `RT/Task`), the parsing lemmas (`RT/ParseViews`) and the assembly of C06
(`RT/Assemble`) speak about: `Reaches`, iterations of the lexer's `run` loop; `views`, the tokens emitted so far as
(type, text) pairs — offsets and line numbers are irrelevant to a successful parse; `…Views`, which token sequences
the pieces of a file lex to; `LexParenSpec` and `LexStmtSpec`, the statements of the lexing lemmas
(`Props/C06.lexing_specs`). -/
namespace Spok

/-- `k` iterations of the run loop lead from `(l, t)` to `(l', t')`, whatever the remaining budget -/
def Reaches (l : L) (t : Tag) (l' : L) (t' : Tag) : Prop := ∃ k, ∀ f, runF (f + k) l t = runF f l' t'

theorem Reaches.refl (l : L) (t : Tag) : Reaches l t l t := ⟨0, fun _ => rfl⟩

theorem Reaches.trans {l1 l2 l3 : L} {t1 t2 t3 : Tag} (h1 : Reaches l1 t1 l2 t2) (h2 : Reaches l2 t2 l3 t3) :
    Reaches l1 t1 l3 t3 := by
  obtain ⟨k1, h1⟩ := h1
  obtain ⟨k2, h2⟩ := h2
  refine ⟨k2 + k1, fun f => ?_⟩
  rw [← Nat.add_assoc, h1, h2]

theorem Reaches.step {l l' : L} {t t' : Tag} (hf : t.final = false) (hs : stepTag l t = (l', t')) :
    Reaches l t l' t' := by
  refine ⟨1, fun f => ?_⟩
  rw [runF]; simp [hf, hs]

abbrev View := TT × List Rune
def view (t : Tok) : View := (t.ty, t.val)
def views (l : L) : List View := l.toks.toList.map view

def argView : Arg → View
  | .str s => (.string, asc QUOTE :: s ++ [asc QUOTE])
  | .ident n => (.ident, n)

def vHash : View := (.hash, [asc HASH])
def vTask : View := (.task, [asc 116, asc 97, asc 115, asc 107])
def vLParen : View := (.lparen, [asc LPAREN])
def vRParen : View := (.rparen, [asc RPAREN])
def vLBrace : View := (.lbrace, [asc LBRACE])
def vRBrace : View := (.rbrace, [asc RBRACE])
def vComma : View := (.comma, [asc COMMA])
def vOutput : View := (.output, [asc MINUS, asc GT])
def vDeclare : View := (.declare, [asc COLON, asc EQUALS])
def vEOF : View := (.eof, [])

/-- the tokens of the items of an argument list (without the parentheses): a comma after every item
    but the last, and possibly after the last too -/
inductive ItemViews : List Arg → List View → Prop
  | last (a : Arg) : ItemViews [a] [argView a]
  | lastComma (a : Arg) : ItemViews [a] [argView a, vComma]
  | cons (a : Arg) (as : List Arg) (vs : List View) : ItemViews as vs → ItemViews (a :: as) (argView a :: vComma :: vs)

def ParenViews (args : List Arg) (vs : List View) : Prop :=
  (args = [] ∧ vs = [vLParen, vRParen]) ∨ ∃ iv, ItemViews args iv ∧ vs = vLParen :: iv ++ [vRParen]

def OutsViews (outs : List Arg) (vs : List View) : Prop :=
  (outs = [] ∧ vs = []) ∨ (∃ a, outs = [a] ∧ vs = [vOutput, argView a]) ∨
  (outs ≠ [] ∧ ∃ pv, ParenViews outs pv ∧ vs = vOutput :: pv)

def StmtViews : Node → List View → Prop
  | .comment c, vs => vs = [vHash, (.comment, c)]
  | .assign n (.str s), vs => vs = [(.ident, n), vDeclare, (.string, asc QUOTE :: s ++ [asc QUOTE])]
  | .assign n (.ident v), vs => vs = [(.ident, n), vDeclare, (.ident, v)]
  | .assign n (.call f args), vs => ∃ pv, ParenViews args pv ∧ vs = (.ident, n) :: vDeclare :: (.ident, f) :: pv
  | .task name doc deps outs cmds, vs =>
    ∃ pv ov, ParenViews deps pv ∧ OutsViews outs ov ∧
      vs = (if doc.isEmpty then [] else [vHash, (.comment, doc)]) ++ vTask :: (.ident, name) :: pv ++ ov ++
           vLBrace :: cmds.map (fun c => (TT.command, c)) ++ [vRBrace]

/-- Lexing `( … )` from the state that has just been told to lex a left parenthesis: the lexer arrives,
    with an empty token buffer, in front of the closing parenthesis in state `rightParen`, having emitted
    `(` and the items. -/
def LexParenSpec : Prop :=
  ∀ (args : List Arg) (p : List Rune), ParenText args p →
  ∀ (l : L) (rest : List Rune), l.tokRev = [] → l.right = p ++ rest →
  ∃ l', Reaches l .leftParen l' .rightParen ∧ l'.tokRev = [] ∧ l'.right = asc RPAREN :: rest ∧
    ∃ iv, ((args = [] ∧ iv = []) ∨ ItemViews args iv) ∧ views l' = views l ++ vLParen :: iv

/-- where the lexer stands between two statements: in `start`, or (after a builtin call) already in
    `hash` in front of the `#` of the next comment / docstring -/
def AtStmt (l : L) (t : Tag) (txt : List Rune) : Prop :=
  l.tokRev = [] ∧
  ((t = .start ∧ l.right.dropWhile isSpace = txt.dropWhile isSpace) ∨
   (t = .hash ∧ l.right = txt.dropWhile isSpace ∧ ∃ r tl, l.right = r :: tl ∧ r.cp = HASH))

/-- Lexing one statement: from a statement boundary in front of `txt ++ rest` the lexer reaches a
    statement boundary in front of `rest`, having emitted the statement's tokens. -/
def LexStmtSpec (P : Node → Prop) : Prop :=
  ∀ (node : Node) (txt rest : List Rune), P node → StmtText node txt rest →
  ∀ (l : L) (t : Tag), AtStmt l t (txt ++ rest) →
  ∃ l' t', Reaches l t l' t' ∧ AtStmt l' t' rest ∧ ∃ vs, StmtViews node vs ∧ views l' = views l ++ vs

def Node.isComment : Node → Prop | .comment _ => True | _ => False
def Node.isAssign : Node → Prop | .assign _ _ => True | _ => False
def Node.isTask : Node → Prop | .task .. => True | _ => False

end Spok
