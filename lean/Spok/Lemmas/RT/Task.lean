import Spok.Lemmas.RT.Comment
import Spok.Lemmas.RT.Paren
import Spok.Lemmas.RT.Body
/-! # Round trip: lexing a task statement (`LexStmtSpec Node.isTask`) -/
namespace Spok
namespace RT

/-- white space, a name, white space, then something that is neither: skipping the leading white space leaves the
    name (an empty name lets the two stretches of white space merge) -/
theorem ws_name_ws {ws1 name ws2 after : List Rune} (h1 : Ws ws1) (hn : IdentRunes name) (h2 : Ws ws2)
    (hs : Stops isSpace after) :
    ∃ wa wb, Ws wa ∧ Ws wb ∧ ws1 ++ name ++ ws2 ++ after = wa ++ (name ++ wb ++ after) ∧
      Stops isSpace (name ++ wb ++ after) := by
  cases name with
  | nil => exact ⟨ws1 ++ ws2, [], ws_append h1 h2, ws_nil, by simp, by simpa using hs⟩
  | cons x n => exact ⟨ws1, ws2, h1, h2, by simp, Stops.cons (isIdent_not_space (hn x (by simp))) _⟩

theorem go_task_core {ws1 name ws2 : List Rune} {deps : List Arg} {p : List Rune} {outs : List Arg} {o : List Rune}
    {cmds : List (List Rune)} {b rest : List Rune} (hws1 : Ws ws1) (hname : IdentRunes name) (hws2 : Ws ws2)
    (hp : ParenText deps p) (ho : OutsText outs o) (hb : BodyText cmds b)
    (hrest : ∀ r, rest.head? = some r → r.cp ≠ RBRACE ∧ r.cp ≠ LBRACE) :
    ∃ pv ov, ParenViews deps pv ∧ OutsViews outs ov ∧
      Go .taskKeyword (asc 116 :: asc 97 :: asc 115 :: asc 107 :: (ws1 ++ (name ++ (ws2 ++ (p ++ (o ++ asc LBRACE :: (b ++
        asc RBRACE :: rest))))))) [] .start rest []
        (vTask :: (.ident, name) :: pv ++ ov ++ vLBrace :: cmds.map (fun c => (TT.command, c)) ++ [vRBrace]) := by
  obtain ⟨iv, hiv, hparen⟩ := go_paren hp
  obtain ⟨ov, hov, houts⟩ := go_outs ho
  obtain ⟨p', rfl⟩ := parenText_head hp
  refine ⟨vLParen :: iv ++ [vRParen], ov, ?_, hov, ?_⟩
  · exact hiv.elim (fun h => Or.inl ⟨h.1, by rw [h.2]; rfl⟩) fun h => Or.inr ⟨iv, h, rfl⟩
  obtain ⟨wa, wb, hwa, hwb, e, hst⟩ := ws_name_ws
    (after := asc LPAREN :: (p' ++ (o ++ asc LBRACE :: (b ++ asc RBRACE :: rest)))) hws1 hname hws2 (Stops.cons (by simp) _)
  simp only [List.append_assoc, List.cons_append] at e hst ⊢
  rw [e]
  exact (((((go_lexTaskKeyword (kw := [asc 116, asc 97, asc 115, asc 107]) rfl hwa hst).trans
    (go_lexTaskName hname hwb rfl)).trans hparen).trans houts).trans (go_body hb hrest)).views (by simp [vTask])

end RT

open RT in
theorem lexStmt_task : LexStmtSpec Node.isTask := by
  intro node txt rest hnode hst l t hat
  cases hst with
  | comment => exact hnode.elim
  | assignStr => exact hnode.elim
  | assignCall => exact hnode.elim
  | assignIdent => exact hnode.elim
  | task doc d e ws0 ws1 name ws2 deps p outs o cmds b rest hdoc hws1 hname hws2 hp ho hb hrest =>
    obtain ⟨pv, ov, hpv, hov, hgo⟩ := go_task_core hws1 hname hws2 hp ho hb hrest
    simp only [List.append_assoc, List.cons_append, List.nil_append] at hat
    rcases hdoc with ⟨rfl, rfl⟩ | ⟨hne, hdocok, he, hcr, hws0, rfl⟩
    · obtain ⟨l', hR, hr', hk', hv'⟩ := (goes_enter_task hat rfl).trans hgo
      exact ⟨l', .start, hR, atStmt_start (ws := []) hk' hr' ws_nil, _, ⟨pv, ov, hpv, hov, rfl⟩, by simpa using hv'⟩
    · -- the docstring line is lexed like a comment statement; its line end and `ws0` are skipped by `lexStart`
      simp only [List.append_assoc, List.cons_append] at hat
      obtain ⟨l', hR, hr', hk', hv'⟩ := ((goes_enter_hash hat rfl).trans (go_commentLine hdocok (Or.inl he) hcr)).trans
        fun l3 hr3 hk3 => (goes_enter_task (atStmt_start (ws := e ++ ws0) hk3 (by simpa using hr3)
          (ws_append (eol_ws he) hws0)) rfl).trans hgo
      have hemp : doc.isEmpty = false := by cases doc with | nil => exact absurd rfl hne | cons => rfl
      exact ⟨l', .start, hR, atStmt_start (ws := []) hk' hr' ws_nil, _, ⟨pv, ov, hpv, hov, rfl⟩,
        by simpa [hemp] using hv'⟩

/-- non-vacuity: `task a() { x }` is an admissible layout of a task with one command -/
example : StmtText (.task [asc 97] [] [] [] [[asc 120]])
    ([] ++ asc 116 :: asc 97 :: asc 115 :: asc 107 :: [asc SP] ++ [asc 97] ++ [] ++ (asc LPAREN :: [] ++ [asc RPAREN]) ++
      [asc SP] ++ asc LBRACE :: ([asc SP] ++ [asc 120] ++ [asc SP]) ++ [asc RBRACE]) [] :=
  StmtText.task [] [] [] [] [asc SP] [asc 97] [] [] _ [] _ [[asc 120]] _ []
    (Or.inl ⟨rfl, rfl⟩) (RT.ws_of_all (by decide)) (by intro r hr; simp at hr; subst hr; decide)
    RT.ws_nil (ParenText.empty [] RT.ws_nil)
    (OutsText.none [asc SP] (RT.ws_of_all (by decide)))
    (BodyText.cmds [asc SP] [asc 120] [] [asc SP] (RT.ws_of_all (by decide))
      ⟨by decide, by rw [cmdScanOK], by decide⟩
      (MoreCmds.done _ _ (Or.inr ⟨[], [asc SP], by simp, Or.inr rfl, rfl, by simp⟩)))
    (by intro r hr; cases hr)
end Spok
