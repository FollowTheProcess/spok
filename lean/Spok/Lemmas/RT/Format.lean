import Spok.Syntax.WF
import Spok.Lemmas.RT.Trim
import Spok.Lemmas.RT.Prim
/-! # Round trip: the formatter's output is an admissible layout of the normalised tree

`renders_format : wfTree t = true → Doc (norm t) (format t)`: the text `ast.Tree.String` produces is the
layout with single blanks, `", "` separators, four-blank indentation and LF line ends. -/
namespace Spok

/-- every statement begins with a `#` or an identifier rune (`task` begins with one) -/
theorem StmtText.head {node : Node} {txt rest : List Rune} (h : StmtText node txt rest) :
    ∃ r tl, txt = r :: tl ∧ isSpace r = false ∧ (isIdent r = true ∨ r.cp = HASH) := by
  have ident : ∀ {n tl : List Rune}, n ≠ [] → IdentRunes n → ∃ r tl', n ++ tl = r :: tl' ∧ isSpace r = false ∧
      (isIdent r = true ∨ r.cp = HASH)
    | [], _, hne, _ => absurd rfl hne
    | a :: n, tl, _, hn => ⟨a, _, rfl, RT.isIdent_not_space (hn a (by simp)), Or.inl (hn a (by simp))⟩
  cases h with
  | comment => exact ⟨_, _, rfl, by decide, Or.inr rfl⟩
  | assignStr n _ _ _ _ _ _ hne hn => simpa only [List.append_assoc] using ident hne hn
  | assignCall n _ _ _ _ _ _ _ hne hn => simpa only [List.append_assoc] using ident hne hn
  | assignIdent n _ _ _ _ hne hn => simpa only [List.append_assoc] using ident hne hn
  | task _ _ _ _ _ _ _ _ _ _ _ _ _ _ hdoc =>
    rcases hdoc with ⟨_, rfl⟩ | ⟨_, _, _, _, _, rfl⟩
    · exact ⟨asc 116, _, rfl, by decide, Or.inl (by decide)⟩
    · exact ⟨asc HASH, _, rfl, by decide, Or.inr rfl⟩

/-- so the condition `StmtText.assignCall` puts on what follows holds of every document -/
theorem Doc.nextStmtOK {t : Tree} {txt : List Rune} (h : Doc t txt) : NextStmtOK txt := by
  unfold NextStmtOK
  cases h with
  | nil ws hws =>
    have := List.dropWhile_append_of_pos (l₂ := []) hws
    rw [List.append_nil] at this
    rw [this]; trivial
  | cons ws node txt t rest hws hst =>
    obtain ⟨r, tl, rfl, hs, hi⟩ := hst.head
    rw [List.append_assoc, List.dropWhile_append_of_pos hws, List.cons_append, List.dropWhile_cons_of_neg (by simp [hs])]
    exact hi

namespace Fmt
open RT (ws_nil ws_append ws_of_all)

/-! ## the literals -/

theorem lit_commentOpen : stdLits.commentOpen = [asc HASH, asc SP] := by decide
theorem lit_nl : stdLits.nl = [asc NL] := by decide
theorem lit_quote : stdLits.quote = [asc QUOTE] := by decide
theorem lit_assignOp : stdLits.assignOp = [asc SP, asc COLON, asc EQUALS, asc SP] := by decide
theorem lit_taskKw : stdLits.taskKw = [asc 116, asc 97, asc 115, asc 107, asc SP] := by decide
theorem lit_lparen : stdLits.lparen = [asc LPAREN] := by decide
theorem lit_rparen : stdLits.rparen = [asc RPAREN] := by decide
theorem lit_sep : stdLits.sep = [asc COMMA, asc SP] := by decide
theorem lit_arrow : stdLits.arrow = [asc SP, asc MINUS, asc GT, asc SP] := by decide
theorem lit_bodyOpen : stdLits.bodyOpen = [asc SP, asc LBRACE, asc NL] := by decide
theorem lit_indent : stdLits.indent = [asc SP, asc SP, asc SP, asc SP] := by decide
theorem lit_bodyClose : stdLits.bodyClose = [asc RBRACE, asc NL, asc NL] := by decide
theorem lit_emptyComment : stdLits.emptyComment = [asc HASH, asc NL] := by decide

/-! ## Bool ↔ Prop bridges -/

theorem identRunes_of {n : List Rune} (h : identRunesB n = true) : IdentRunes n := by
  intro r hr; exact List.all_eq_true.mp h r hr

theorem strOK_of {s : List Rune} (h : strOKB s = true) : StrOK s := by
  simp only [strOKB, Bool.and_eq_true, List.all_eq_true] at h
  exact ⟨fun r hr => by simpa using h.1 r hr, fun r hr => by simpa using h.2 r hr⟩

theorem commentOK_of {c : List Rune} (h : commentOKB c = true) : CommentOK c := by
  simp only [commentOKB, List.all_eq_true] at h
  exact fun r hr => by simpa using h r hr

theorem firstCmdOK_of {c : List Rune} (h : firstCmdOKB c = true) : FirstCmdOK c := by
  cases c with
  | nil => simp [firstCmdOKB] at h
  | cons a c' =>
    simp only [firstCmdOKB, Bool.and_eq_true, Bool.not_eq_true'] at h
    exact ⟨h.1.1, h.1.2, h.2⟩

theorem nextCmdOK_of {c : List Rune} (h : nextCmdOKB c = true) : NextCmdOK c := by
  cases c with
  | nil => simp [nextCmdOKB] at h
  | cons a c' =>
    simp only [nextCmdOKB, Bool.and_eq_true, Bool.not_eq_true'] at h
    exact ⟨h.1.1, h.1.2, h.2⟩

/-! ## arguments -/

theorem printArg_str (s : List Rune) : printArg stdLits (.str s) = asc QUOTE :: s ++ [asc QUOTE] := by
  simp [printArg, lit_quote]

theorem printArg_ident (n : List Rune) : printArg stdLits (.ident n) = n := rfl

theorem argText_of {a : Arg} (h : argOKB a = true) : ArgText a (printArg stdLits a) := by
  cases a with
  | str s => rw [printArg_str]; exact ArgText.str s (strOK_of h)
  | ident n =>
    simp only [argOKB, Bool.and_eq_true] at h
    exact ArgText.ident n (by simpa using h.1) (identRunes_of h.2)

theorem afterArg_nil (a : Arg) : AfterArg a [] := by
  cases a with
  | str s => exact ⟨ws_nil, rfl⟩
  | ident n => exact ws_nil

theorem afterArg_sp (a : Arg) : AfterArg a [asc SP] := by
  cases a with
  | str s => exact ⟨ws_of_all (by decide), by decide⟩
  | ident n => exact ws_of_all (by decide)

/-- `a, b, c` -/
theorem items_format : ∀ (as : List Arg) (a : Arg), (∀ x ∈ a :: as, argOKB x = true) →
    ItemsText (a :: as) (joinR [asc COMMA, asc SP] ((a :: as).map (printArg stdLits))) := by
  intro as
  induction as with
  | nil =>
    intro a h
    have := ItemsText.last a _ [] (argText_of (h a (by simp))) (afterArg_nil a)
    simpa [joinR] using this
  | cons b bs ih =>
    intro a h
    have h2 := ih b (fun x hx => h x (by simp [hx]))
    have := ItemsText.cons a _ [] [asc SP] (b :: bs) _ (argText_of (h a (by simp))) (afterArg_nil a)
      (ws_of_all (by decide)) h2
    simpa [joinR, List.append_assoc] using this

/-- the text of an argument list as the formatter writes it -/
def parenTxt (args : List Arg) : List Rune :=
  asc LPAREN :: joinR [asc COMMA, asc SP] (args.map (printArg stdLits)) ++ [asc RPAREN]

theorem paren_format (args : List Arg) (h : ∀ x ∈ args, argOKB x = true) : ParenText args (parenTxt args) := by
  cases args with
  | nil =>
    have := ParenText.empty [] ws_nil
    simpa [parenTxt, joinR] using this
  | cons a as =>
    have := ParenText.items [] (a :: as) _ ws_nil (items_format as a h)
    simpa [parenTxt] using this

/-! ## the output clause -/

/-- what the formatter writes between `)` and `{` -/
def outsTxt (outs : List Arg) : List Rune :=
  (match outs with
   | [] => []
   | [o] => [asc SP, asc MINUS, asc GT, asc SP] ++ printArg stdLits o
   | os => [asc SP, asc MINUS, asc GT, asc SP] ++ parenTxt os) ++ [asc SP]

theorem outs_format (outs : List Arg) (h : ∀ x ∈ outs, argOKB x = true) : OutsText outs (outsTxt outs) := by
  match outs, h with
  | [], _ =>
    exact OutsText.none [asc SP] (ws_of_all (by decide))
  | [o], h =>
    have := OutsText.single [asc SP] [asc SP] [asc SP] o _ (ws_of_all (by decide)) (ws_of_all (by decide))
      (argText_of (h o (by simp))) (afterArg_sp o)
    simpa [outsTxt, List.append_assoc] using this
  | a :: b :: os, h =>
    have := OutsText.list [asc SP] [asc SP] [asc SP] (a :: b :: os) _ (ws_of_all (by decide)) (ws_of_all (by decide))
      (ws_of_all (by decide)) (by simp) (paren_format (a :: b :: os) h)
    simpa [outsTxt, List.append_assoc] using this

/-! ## the body -/

/-- one command line as the formatter writes it -/
def cmdLine (c : List Rune) : List Rune := [asc SP, asc SP, asc SP, asc SP] ++ c ++ [asc NL]

theorem cmdSep_indent : CmdSep [asc NL, asc SP, asc SP, asc SP, asc SP] := by
  exact ⟨[], [asc SP, asc SP, asc SP, asc SP], (fun r hr => by cases hr), ws_of_all (by decide), rfl⟩

theorem cmdSep_nl : CmdSep [asc NL] := by
  exact ⟨[], [], (fun r hr => by cases hr), ws_nil, rfl⟩

theorem moreCmds_format : ∀ (cs : List (List Rune)) (prev : List Rune), (∀ c ∈ cs, nextCmdOKB c = true) →
    MoreCmds cs prev (asc NL :: (cs.map cmdLine).flatten) := by
  intro cs
  induction cs with
  | nil =>
    intro prev _
    exact MoreCmds.done prev [asc NL] (Or.inl cmdSep_nl)
  | cons c cs ih =>
    intro prev h
    have := MoreCmds.cons prev _ c cs _ cmdSep_indent (nextCmdOK_of (h c (by simp)))
      (ih c (fun x hx => h x (by simp [hx])))
    simpa [cmdLine, List.append_assoc] using this

theorem body_format (cmds : List (List Rune)) (h : cmdsOKB cmds = true) :
    BodyText cmds (asc NL :: (cmds.map cmdLine).flatten) := by
  cases cmds with
  | nil => exact BodyText.empty [asc NL] (ws_of_all (by decide))
  | cons c cs =>
    simp only [cmdsOKB, Bool.and_eq_true, List.all_eq_true] at h
    have := BodyText.cmds [asc NL, asc SP, asc SP, asc SP, asc SP] c cs _ (ws_of_all (by decide))
      (firstCmdOK_of h.1) (moreCmds_format cs c h.2)
    simpa [cmdLine, List.append_assoc] using this

/-! ## comments -/

theorem commentOK_respell {c : List Rune} (h : CommentOK c) : CommentOK (asc SP :: trimSpace c) := by
  intro r hr
  simp only [List.mem_cons] at hr
  rcases hr with rfl | hr
  · decide
  · exact h r (trimSpace_mem hr)

theorem endsCR_respell (c : List Rune) : endsWithCp (asc SP :: trimSpace c) CR = false := by
  unfold endsWithCp
  cases ht : trimSpace c with
  | nil => decide
  | cons y ys =>
    rw [List.getLast?_cons_cons]
    cases hl : (y :: ys).getLast? with
    | none => rfl
    | some r =>
      have hs : isSpace r = false := trimSpace_last (by rw [ht]; exact hl)
      have : r.cp ≠ CR := by
        intro hc
        have : isSpace r = true := by unfold isSpace; rw [hc]; decide
        rw [hs] at this; cases this
      simpa using this

theorem printComment_nil : printComment stdLits [] = [] := rfl

theorem printComment_cons (a : Rune) (c : List Rune) :
    printComment stdLits (a :: c) = asc HASH :: asc SP :: trimSpace (a :: c) ++ [asc NL] := by
  simp [printComment, lit_commentOpen, lit_nl]

theorem stmt_comment (c rest : List Rune) (h : commentOKB c = true) :
    StmtText (.comment (normComment c)) (printNode stdLits (.comment c)) rest := by
  cases c with
  | nil =>
    have := StmtText.comment [] [asc NL] rest (by intro r hr; cases hr) (Or.inl (Or.inl rfl))
      (by intro h; simp [endsWithCp] at h)
    simpa [printNode, lit_emptyComment, normComment] using this
  | cons a c =>
    have := StmtText.comment (asc SP :: trimSpace (a :: c)) [asc NL] rest (commentOK_respell (commentOK_of h))
      (Or.inl (Or.inl rfl)) (by intro h; rw [endsCR_respell] at h; cases h)
    have e : normComment (a :: c) = asc SP :: trimSpace (a :: c) := rfl
    rw [e]
    simpa [printNode, printComment_cons] using this

/-! ## layouts -/

theorem format_cons (node : Node) (t : Tree) : format (node :: t) = printNode stdLits node ++ format t := rfl

theorem doc_ws {t : Tree} {txt : List Rune} (h : Doc t txt) (ws : List Rune) (hws : Ws ws) : Doc t (ws ++ txt) := by
  cases h with
  | nil ws' hws' => exact Doc.nil _ (ws_append hws hws')
  | cons ws' node txt' t' rest hws' hst hd hadj =>
    have := Doc.cons (ws ++ ws') node txt' t' rest (ws_append hws hws') hst hd hadj
    simpa [List.append_assoc] using this

theorem normNode_isNonEmptyComment (n : Node) : (normNode n).isNonEmptyComment = n.isNonEmptyComment := by
  cases n with
  | comment c => simp [normNode, Node.isNonEmptyComment, normComment_isEmpty]
  | assign => rfl
  | task => rfl

theorem normNode_isDoclessTask (n : Node) : (normNode n).isDoclessTask = n.isDoclessTask := by
  cases n with
  | comment c => rfl
  | assign => rfl
  | task name doc deps outs cmds => simp [normNode, Node.isDoclessTask, normComment_isEmpty]

/-- the side condition of `Doc.cons` for the normalised tree -/
theorem adj_norm (node : Node) (t : Tree) (h : adjOKB (node :: t) = true) :
    (normNode node).isNonEmptyComment = true → ∀ n2, (norm t).head? = some n2 → n2.isDoclessTask = false := by
  intro hne n2 hn2
  cases t with
  | nil => simp [norm] at hn2
  | cons m t =>
    simp only [norm, List.map_cons, List.head?_cons, Option.some.injEq] at hn2
    subst hn2
    rw [normNode_isDoclessTask]
    rw [normNode_isNonEmptyComment] at hne
    simp only [adjOKB, Bool.and_eq_true, Bool.not_eq_true', Bool.and_eq_false_iff] at h
    rcases h.1.1 with h1 | h1
    · rw [h1] at hne; cases hne
    · exact h1

theorem adj_tail (node : Node) (t : Tree) (h : adjOKB (node :: t) = true) : adjOKB t = true := by
  cases t with
  | nil => rfl
  | cons m t =>
    simp only [adjOKB, Bool.and_eq_true] at h
    exact h.2

theorem adj_identAssign (node : Node) (t : Tree) (h : adjOKB (node :: t) = true) (hi : node.isIdentAssign = true) : t = [] := by
  cases t with
  | nil => rfl
  | cons m t =>
    simp only [adjOKB, Bool.and_eq_true, Bool.not_eq_true'] at h
    rw [h.1.2] at hi; cases hi

/-! ## assignments -/

theorem stmt_assignStr (n s rest : List Rune) (hn : n ≠ []) (hi : IdentRunes n) (hk : kwPrefix n = false) (hs : StrOK s) :
    StmtText (.assign n (.str s)) (printNode stdLits (.assign n (.str s))) rest := by
  have := StmtText.assignStr n [asc SP] [asc SP] s [] [asc NL] rest hn hi hk (ws_of_all (by decide))
    (ws_of_all (by decide)) hs (fun r hr => by cases hr) (Or.inl (Or.inl rfl))
  simpa [printNode, printVal, lit_assignOp, lit_quote, lit_nl, List.append_assoc] using this

/-- `NAME := f(args)` without the line end -/
def callTxt (n f : List Rune) (args : List Arg) : List Rune :=
  n ++ [asc SP] ++ asc COLON :: asc EQUALS :: [asc SP] ++ f ++ [] ++ parenTxt args

theorem printNode_call (n f : List Rune) (args : List Arg) :
    printNode stdLits (.assign n (.call f args)) = callTxt n f args ++ [asc NL] := by
  simp [printNode, printVal, callTxt, parenTxt, lit_assignOp, lit_lparen, lit_rparen, lit_sep, lit_nl, List.append_assoc]

theorem stmt_assignCall (n f : List Rune) (args : List Arg) (rest : List Rune) (hn : n ≠ []) (hi : IdentRunes n)
    (hk : kwPrefix n = false) (hf : f ≠ []) (hfi : IdentRunes f) (ha : ∀ x ∈ args, argOKB x = true)
    (hrest : NextStmtOK rest) :
    StmtText (.assign n (.call f args)) (callTxt n f args) rest :=
  StmtText.assignCall n [asc SP] [asc SP] f [] args (parenTxt args) rest hn hi hk (ws_of_all (by decide))
    (ws_of_all (by decide)) hf hfi ws_nil (paren_format args ha) hrest

theorem stmt_assignIdent (n v : List Rune) (hn : n ≠ []) (hi : IdentRunes n) (hk : kwPrefix n = false)
    (hv : v ≠ []) (hvi : IdentRunes v) :
    StmtText (.assign n (.ident v)) (printNode stdLits (.assign n (.ident v))) [] := by
  have := StmtText.assignIdent n [asc SP] [asc SP] v [asc NL] hn hi hk (ws_of_all (by decide))
    (ws_of_all (by decide)) hv hvi (ws_of_all (by decide))
  simpa [printNode, printVal, lit_assignOp, lit_nl, List.append_assoc] using this

/-! ## tasks -/

/-- a task as the formatter writes it, up to and including the closing brace -/
def taskTxt (name doc : List Rune) (deps outs : List Arg) (cmds : List (List Rune)) : List Rune :=
  printComment stdLits doc ++ asc 116 :: asc 97 :: asc 115 :: asc 107 :: [asc SP] ++ name ++ [] ++ parenTxt deps ++
    outsTxt outs ++ asc LBRACE :: (asc NL :: (cmds.map cmdLine).flatten) ++ [asc RBRACE]

theorem cmdLines_eq (cmds : List (List Rune)) :
    (cmds.map fun c => stdLits.indent ++ c ++ stdLits.nl) = cmds.map cmdLine := by
  apply List.map_congr_left
  intro c _
  simp [cmdLine, lit_indent, lit_nl]

theorem printNode_task (name doc : List Rune) (deps outs : List Arg) (cmds : List (List Rune)) :
    printNode stdLits (.task name doc deps outs cmds) = taskTxt name doc deps outs cmds ++ [asc NL, asc NL] := by
  simp only [printNode]
  rw [cmdLines_eq]
  match outs with
  | [] =>
    simp [taskTxt, outsTxt, parenTxt, lit_taskKw, lit_lparen, lit_rparen, lit_sep, lit_bodyOpen,
      lit_bodyClose, List.append_assoc]
  | [o] =>
    simp [taskTxt, outsTxt, parenTxt, lit_taskKw, lit_lparen, lit_rparen, lit_sep, lit_bodyOpen,
      lit_bodyClose, lit_arrow, List.append_assoc]
  | a :: b :: os =>
    simp [taskTxt, outsTxt, parenTxt, lit_taskKw, lit_lparen, lit_rparen, lit_sep, lit_bodyOpen,
      lit_bodyClose, lit_arrow, List.append_assoc]

theorem stmt_task (name doc : List Rune) (deps outs : List Arg) (cmds : List (List Rune)) (rest : List Rune)
    (hname : IdentRunes name) (hdoc : CommentOK doc) (hd : ∀ x ∈ deps, argOKB x = true)
    (ho : ∀ x ∈ outs, argOKB x = true) (hcm : cmdsOKB cmds = true)
    (hrest : ∀ r, rest.head? = some r → r.cp ≠ RBRACE ∧ r.cp ≠ LBRACE) :
    StmtText (.task name (normComment doc) deps outs cmds) (taskTxt name doc deps outs cmds) rest := by
  cases doc with
  | nil =>
    exact StmtText.task [] [] [] [] [asc SP] name [] deps (parenTxt deps) outs (outsTxt outs) cmds _ rest
      (Or.inl ⟨rfl, rfl⟩) (ws_of_all (by decide)) hname ws_nil (paren_format deps hd) (outs_format outs ho)
      (body_format cmds hcm) hrest
  | cons a c =>
    have := StmtText.task (asc SP :: trimSpace (a :: c)) (asc HASH :: (asc SP :: trimSpace (a :: c)) ++ [asc NL] ++ [])
      [asc NL] [] [asc SP] name [] deps (parenTxt deps) outs (outsTxt outs) cmds _ rest
      (Or.inr ⟨by simp, commentOK_respell hdoc, Or.inl rfl, (by intro h; rw [endsCR_respell] at h; cases h), ws_nil, rfl⟩)
      (ws_of_all (by decide)) hname ws_nil (paren_format deps hd) (outs_format outs ho)
      (body_format cmds hcm) hrest
    have e : normComment (a :: c) = asc SP :: trimSpace (a :: c) := rfl
    rw [e]
    simpa [taskTxt, printComment_cons, List.append_assoc] using this

/-! ## the whole file -/

theorem doc_format : ∀ (t : Tree), (∀ n ∈ t, nodeOKB n = true) → adjOKB t = true → Doc (norm t) (format t)
  | [] => fun _ _ => Doc.nil [] ws_nil
  | node :: t => by
    intro hok hadj
    have hok' : ∀ n ∈ t, nodeOKB n = true := fun n hn => hok n (by simp [hn])
    have ih := doc_format t hok' (adj_tail node t hadj)
    have hadj' := adj_norm node t hadj
    have hnode := hok node (by simp)
    rw [format_cons]
    show Doc (normNode node :: norm t) _
    cases node with
    | comment c =>
      have := Doc.cons [] _ _ _ (format t) ws_nil (stmt_comment c (format t) hnode) ih hadj'
      simpa [normNode] using this
    | assign n v =>
      simp only [nodeOKB, Bool.and_eq_true] at hnode
      obtain ⟨⟨⟨hn, hi⟩, hk0⟩, hv⟩ := hnode
      have hk : kwPrefix n = false := by simpa using hk0
      have hn' : n ≠ [] := by simpa using hn
      have hi' := identRunes_of hi
      cases v with
      | str s =>
        have := Doc.cons [] _ _ _ (format t) ws_nil
          (stmt_assignStr n s (format t) hn' hi' hk (strOK_of hv)) ih hadj'
        simpa [normNode] using this
      | ident w =>
        have ht : t = [] := adj_identAssign _ t hadj rfl
        subst ht
        simp only [valOKB, Bool.and_eq_true] at hv
        have := Doc.cons [] _ _ _ [] ws_nil
          (stmt_assignIdent n w hn' hi' hk (by simpa using hv.1) (identRunes_of hv.2)) (Doc.nil [] ws_nil) hadj'
        simpa [format, printTree, normNode, norm] using this
      | call f args =>
        simp only [valOKB, Bool.and_eq_true, List.all_eq_true] at hv
        have ih' := doc_ws ih [asc NL] (ws_of_all (by decide))
        have := Doc.cons [] _ _ _ (asc NL :: format t) ws_nil
          (stmt_assignCall n f args _ hn' hi' hk (by simpa using hv.1.1) (identRunes_of hv.1.2) hv.2 ih'.nextStmtOK) ih' hadj'
        simpa [printNode_call, normNode, List.append_assoc] using this
    | task name doc deps outs cmds =>
      simp only [nodeOKB, Bool.and_eq_true, List.all_eq_true] at hnode
      obtain ⟨⟨⟨⟨hname, hdoc⟩, hd⟩, ho⟩, hcm⟩ := hnode
      have := Doc.cons [] _ _ _ (asc NL :: asc NL :: format t) ws_nil
        (stmt_task name doc deps outs cmds _ (identRunes_of hname) (commentOK_of hdoc) hd ho hcm
          (by intro r hr; cases hr; exact ⟨by decide, by decide⟩))
        (doc_ws ih [asc NL, asc NL] (ws_of_all (by decide))) hadj'
      simpa [printNode_task, normNode, List.append_assoc] using this

end Fmt

/-- the formatter's output is an admissible layout of the normalised tree -/
theorem renders_format : ∀ t, wfTree t = true → Doc (norm t) (format t) := by
  intro t h
  simp only [wfTree, Bool.and_eq_true, List.all_eq_true] at h
  exact Fmt.doc_format t h.1 h.2

/-! ## non-vacuity: a tree with every kind of statement satisfies `wfTree` -/
namespace Fmt

/-- `#  h ⏎ # ⏎ y := f("o", x) ⏎ # d ⏎ task b(x) -> "o" { go x ⏎ o x } ⏎ z := x` -/
def exTree : Tree :=
  [.comment [asc SP, asc 104, asc SP], .comment [],
   .assign [asc 121] (.call [asc 102] [.str [asc 111], .ident [asc 120]]),
   .task [asc 98] [asc 100] [.ident [asc 120]] [.str [asc 111]] [[asc 103, asc 111, asc SP, asc 120], [asc 111, asc SP, asc 120]],
   .assign [asc 122] (.ident [asc 120])]

theorem exTree_wf : wfTree exTree = true := by
  have ex_scan : cmdScanOK [asc 111, asc SP, asc 120] = true := by simp [cmdScanOK, asc, isASCII]
  simp only [exTree, wfTree, List.all_cons, List.all_nil, nodeOKB, cmdsOKB, firstCmdOKB, nextCmdOKB, ex_scan]
  decide

example : Doc (norm exTree) (format exTree) := renders_format exTree exTree_wf

end Fmt

end Spok
