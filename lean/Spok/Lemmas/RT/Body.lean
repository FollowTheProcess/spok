import Spok.Lemmas.LexStepCmd
import Spok.Lemmas.RT.States
import Spok.Lemmas.WfCmd
/-! # Round trip, task statements: the body (`{ … }`), i.e. the command loop `lexTaskCommandsF`

`lexTaskCommands` is one iteration of the run loop, but a loop of its own inside.  `CmdRun l l'` says that some
iterations of that inner loop lead from `l` to `l'` (the analogue of `Reaches`), `CmdEnds l res` that it then
returns `res`; both hold for every budget, and `CmdEnds.finish` shows that the budget `lexTaskCommands` starts
with suffices, because every iteration consumes input.

The loop looks behind the cursor (`lastIs`, `stepBack`, `stripCR`), so besides `tokRev` it matters that the token
under construction is the text just before the cursor: `TokLeft` (`Lemmas/LexPrim.lean`).

`PW.Scan fol c` (`Lemmas/WfCmd.lean`) is the scan of the command text `c` with `fol` after it; `scan_of_ok` gives
it for a text accepted by `cmdScanOK` in front of any follower the layout relation admits (`FolOK`), and
`scan_spec` lets the loop run along it. -/
namespace Spok
namespace RT
open PW (brace2 hasPrefix_brace2 Scan)

/-! ## one iteration of the command loop (`lexTaskCommandsF_succ`), by case -/

theorem cmdF_plain (fuel : Nat) {l : L} {r : Rune} {rs : List Rune} (h : l.right = r :: rs) (hnl : r.cp ≠ NL)
    (hb : brace2 rs = false) (hrb : r.cp ≠ RBRACE) (hne : rs ≠ []) (hh : r.cp ≠ HASH) (ha : isASCII r = true) :
    lexTaskCommandsF (fuel + 1) l = lexTaskCommandsF fuel (l.next).1 := by
  rw [← hasPrefix_brace2 h, Bool.or_eq_false_iff] at hb
  simp [lexTaskCommandsF_succ, h, hnl, hb.1, hb.2, hrb, hne, hh, ha, L.atEOF]

/-- `{{` or `}}` directly after the rune read: both are taken as command text -/
theorem cmdF_jump (fuel : Nat) {l : L} {r : Rune} {rs : List Rune} (h : l.right = r :: rs) (hnl : r.cp ≠ NL)
    (hb : brace2 rs = true) : lexTaskCommandsF (fuel + 1) l = lexTaskCommandsF fuel ((l.next).1.absorb 2) := by
  rw [← hasPrefix_brace2 h, Bool.or_eq_true] at hb
  rcases hb with hb | hb <;> simp [lexTaskCommandsF_succ, h, hnl, hb]

theorem cmdF_nl (fuel : Nat) {l : L} {r : Rune} {rs : List Rune} (h : l.right = r :: rs) (hnl : r.cp = NL) :
    lexTaskCommandsF (fuel + 1) l = lexTaskCommandsF fuel (endLine l) := by
  simp [lexTaskCommandsF_succ, h, hnl]

theorem cmdF_close (fuel : Nat) {l : L} {r : Rune} {rs : List Rune} (h : l.right = r :: rs) (hrb : r.cp = RBRACE)
    (hb : brace2 rs = false) : lexTaskCommandsF (fuel + 1) l = (closeCmd l, .rightBrace) := by
  rw [← hasPrefix_brace2 h, Bool.or_eq_false_iff] at hb
  simp [lexTaskCommandsF_succ, h, hrb, hb.1, hb.2]

/-! ## iterations of the command loop -/

/-- some iterations of the command loop lead from `l` to `l'`, whatever the remaining budget; they consume input -/
def CmdRun (l l' : L) : Prop :=
  ∃ k, l'.right.length + k ≤ l.right.length ∧ ∀ f, lexTaskCommandsF (f + k) l = lexTaskCommandsF f l'

/-- after some iterations the command loop returns `res` -/
def CmdEnds (l : L) (res : L × Tag) : Prop := ∃ l', CmdRun l l' ∧ ∀ f, lexTaskCommandsF (f + 1) l' = res

theorem CmdRun.refl (l : L) : CmdRun l l := ⟨0, by simp, fun _ => rfl⟩

theorem CmdRun.trans {l1 l2 l3 : L} (h1 : CmdRun l1 l2) (h2 : CmdRun l2 l3) : CmdRun l1 l3 := by
  obtain ⟨k1, b1, h1⟩ := h1
  obtain ⟨k2, b2, h2⟩ := h2
  exact ⟨k2 + k1, by omega, fun f => by rw [← Nat.add_assoc, h1, h2]⟩

theorem CmdRun.step {l l' : L} (h : ∀ f, lexTaskCommandsF (f + 1) l = lexTaskCommandsF f l')
    (hlt : l'.right.length < l.right.length) : CmdRun l l' := ⟨1, by omega, h⟩

theorem CmdRun.trans_ends {l l' : L} {res : L × Tag} (h : CmdRun l l') (he : CmdEnds l' res) : CmdEnds l res := by
  obtain ⟨l2, h2, he⟩ := he
  exact ⟨l2, h.trans h2, he⟩

theorem CmdEnds.finish {l : L} {res : L × Tag} (h : CmdEnds l res) : lexTaskCommands l = res := by
  obtain ⟨l', ⟨k, hk, h⟩, he⟩ := h
  have : l.right.length + 1 = (l.right.length - k) + 1 + k := by omega
  rw [lexTaskCommands, this, h, he]

/-! ## scanning command text -/

/-- what may follow a piece of command text so that the loop's two-rune look-ahead behaves as in `cmdScanOK`
    (where a newline follows): something, not beginning with `{` nor with `}}` -/
def FolOK (fol : List Rune) : Prop :=
  fol ≠ [] ∧ (∀ r, fol.head? = some r → r.cp ≠ LBRACE) ∧ (fol.take 2).map (·.cp) ≠ [RBRACE, RBRACE]

theorem FolOK.of_head {x : Rune} (xs : List Rune) (h1 : x.cp ≠ LBRACE) (h2 : x.cp ≠ RBRACE) : FolOK (x :: xs) := by
  refine ⟨by simp, ?_, ?_⟩
  · intro r hr; simp at hr; subst hr; exact h1
  · cases xs <;> simp [h2]

theorem FolOK.close {rest : List Rune} (hrest : ∀ r, rest.head? = some r → r.cp ≠ RBRACE ∧ r.cp ≠ LBRACE) :
    FolOK (asc RBRACE :: rest) := by
  refine ⟨by simp, ?_, ?_⟩
  · intro r hr; simp at hr; subst hr; decide
  · cases rest with
    | nil => simp
    | cons y ys => have := (hrest y rfl).1; simp [this]

theorem FolOK.not_brace2 {fol : List Rune} (h : FolOK fol) : brace2 fol = false := by
  cases hb : brace2 fol with
  | false => rfl
  | true =>
    obtain ⟨a, b, rest, rfl, ha, _⟩ := PW.brace2_heads hb
    have h1 : a.cp ≠ LBRACE := h.2.1 a rfl
    have h2 := h.2.2
    simp [PW.brace2, h1] at hb h2
    exact absurd hb.2 (h2 hb.1)

theorem brace2_append {rest fol : List Rune} (hf : FolOK fol) (hc : cmdScanOK rest = true) (hb : brace2 rest = false) :
    brace2 (rest ++ fol) = false := by
  match rest, hc, hb with
  | [], _, _ => exact hf.not_brace2
  | [x], hc, _ =>
    cases hb' : brace2 ([x] ++ fol) with
    | false => rfl
    | true =>
      obtain ⟨a, b, rest, e, _, _⟩ := PW.brace2_heads hb'
      obtain ⟨rfl, rfl⟩ : x = a ∧ fol = b :: rest := by simpa using e
      have h1 : b.cp ≠ LBRACE := hf.2.1 b rfl
      have h2 : x.cp ≠ RBRACE := fun h => by rw [cmdScanOK] at hc; simp [h] at hc
      simp [PW.brace2, h1, h2] at hb'
  | x :: y :: rest2, _, hb => rw [PW.brace2_append_of_le _ (by simp)]; exact hb

theorem scan_of_ok {fol : List Rune} (hf : FolOK fol) (c : List Rune) : cmdScanOK c = true → Scan fol c := by
  fun_induction cmdScanOK c with
  | case1 => exact fun _ => .nil
  | case2 r rest hnl => intro h; cases h
  | case3 r rest hnl hj ih =>
    intro hc
    have hb : brace2 rest = true := hj
    obtain ⟨a, b, rest', rfl, _⟩ := PW.brace2_heads hb
    exact .jump (by simpa using hnl) (by rw [PW.brace2_append_of_le _ (by simp)]; exact hb) (by simp) (ih hc)
  | case4 r rest hnl hj hbad => intro h; cases h
  | case5 r rest hnl hj hbad ha ih =>
    intro hc
    have hb : brace2 rest = false := by simpa [PW.brace2] using hj
    simp only [Bool.or_eq_true, beq_iff_eq, not_or] at hbad
    exact .plain (by simpa using hnl) (brace2_append hf hc hb) hbad.1 hbad.2 ha (ih hc)
  | case6 r rest hnl hj hbad ha => intro h; cases h

theorem scan_spec {fol c : List Rune} (h : Scan fol c) (hne : fol ≠ []) : ∀ (l : L), TokLeft l → l.right = c ++ fol →
    ∃ l', CmdRun l l' ∧ l'.right = fol ∧ l'.tokRev = c.reverse ++ l.tokRev ∧ l'.toks = l.toks ∧ TokLeft l' := by
  induction h with
  | nil => intro l hT hl; exact ⟨l, CmdRun.refl l, by simpa using hl, by simp, rfl, hT⟩
  | @jump r rest hnl hb h2 _ ih =>
    intro l hT hl
    obtain ⟨a, b, rest', rfl⟩ : ∃ a b rest', rest = a :: b :: rest' := by
      match rest, h2 with
      | a :: b :: rest', _ => exact ⟨a, b, rest', rfl⟩
    have hl' : l.right = r :: (a :: b :: rest' ++ fol) := by simpa using hl
    have hnr : (l.next).1.right = a :: b :: (rest' ++ fol) := by rw [L.next_right_cons hl']; rfl
    have hm : ((l.next).1.absorb 2).right = rest' ++ fol := by rw [L.absorb_right, hnr]; rfl
    obtain ⟨l', e, hr', ht', hk', hT'⟩ := ih _ ((hT.readsTo (.next hl')).absorb 2) (by simpa using hm)
    refine ⟨l', (CmdRun.step (fun f => cmdF_jump f hl' hnl hb) (by rw [hm, hl']; simp; omega)).trans e, hr', ?_,
      by simp [hk', L.absorb], hT'⟩
    rw [ht', absorb_tokRev, hnr, L.next_tokRev_cons hl']; simp
  | @plain r rest hnl hb hrb hh ha _ ih =>
    intro l hT hl
    have hl' : l.right = r :: (rest ++ fol) := by simpa using hl
    have hm : (l.next).1.right = rest ++ fol := L.next_right_cons hl'
    obtain ⟨l', e, hr', ht', hk', hT'⟩ := ih _ (hT.readsTo (.next hl')) hm
    exact ⟨l', (CmdRun.step (fun f => cmdF_plain f hl' hnl hb hrb (by simp [hne]) hh ha) (by rw [hm, hl']; simp)).trans e,
      hr', by rw [ht', L.next_tokRev_cons hl']; simp, by simp [hk'], hT'⟩

/-! ## how a command ends -/

theorem cmdScanOK_crsp (c : List Rune) (h : ∀ r ∈ c, r.cp = CR ∨ r.cp = SP) : cmdScanOK c = true := by
  induction c with
  | nil => rw [cmdScanOK]
  | cons r rest ih =>
    have hb : brace2 rest = false := by
      cases hb : brace2 rest with
      | false => rfl
      | true =>
        obtain ⟨a, b, rest', rfl, ha, _⟩ := PW.brace2_heads hb
        have := h a (by simp)
        omega
    rw [PW.cmdScanOK_cons, hb, ih fun x hx => h x (by simp [hx])]
    rcases h r (by simp) with hr | hr <;> simp [hr, isASCII]

theorem head?_reverse_ne {prev : List Rune} {c : Nat} (h : endsWithCp prev c = false) :
    ∀ r, prev.reverse.head? = some r → r.cp ≠ c := by
  intro r hr
  rw [List.head?_reverse] at hr
  simpa [endsWithCp, hr] using h

/-- `stripCR` on a token that is `prev` followed by the carriage returns `crs` -/
theorem stripCR_spec {prev crs : List Rune} (hprev : endsWithCp prev CR = false) (hcrs : ∀ r ∈ crs, r.cp = CR) {l : L}
    (hT : TokLeft l) (ht : l.tokRev = crs.reverse ++ prev.reverse) :
    (stripCR l).tokRev = prev.reverse ∧ (stripCR l).right = crs ++ l.right ∧ (stripCR l).toks = l.toks := by
  have hc : ∀ r ∈ crs.reverse, (r.cp == CR) = true := by simpa using hcrs
  have hs : Stops (·.cp == CR) prev.reverse := fun r hr => by simpa using head?_reverse_ne hprev r hr
  obtain ⟨e1, e2, e3, -⟩ := hT.stripCR_eq
  rw [ht, dropWhile_append_stops hc hs] at e1
  rw [ht, takeWhile_append_stops hc hs, List.reverse_reverse] at e2
  exact ⟨e1, e2, e3⟩

theorem endLine_spec {prev crs ws more : List Rune} (hprev : endsWithCp prev CR = false) (hcrs : ∀ r ∈ crs, r.cp = CR)
    (hws : Ws ws) (hmore : Stops isSpace more) {l : L} (hT : TokLeft l) (ht : l.tokRev = crs.reverse ++ prev.reverse)
    (hr : l.right = asc NL :: (ws ++ more)) :
    (endLine l).tokRev = [] ∧ (endLine l).right = more ∧ views (endLine l) = views l ++ [(.command, prev)] := by
  obtain ⟨m1, m3, m4⟩ := stripCR_spec hprev hcrs (hT.readsTo (.peek l)) (by simpa using ht)
  have hw : Ws (crs ++ asc NL :: ws) := ws_append (fun x hx => isSpace_of_cp (hcrs x hx) isSpaceCp_CR)
    (ws_append (a := [asc NL]) (ws_of_all (by decide)) hws)
  refine ⟨by simp [endLine], ?_, by simp [endLine, views_of_toks m4, m1]⟩
  rw [endLine, skipWs_right, L.emit_right, m3, L.peek_right, hr]
  simpa using dropWhile_append_stops hw hmore

/-- `CR* LF ws` after a command `prev` held in the token buffer: the command is emitted and the loop goes on at `more` -/
theorem sep_spec {prev crs ws more : List Rune} (hprev : endsWithCp prev CR = false)
    (hcrs : ∀ r ∈ crs, r.cp = CR) (hws : Ws ws) (hmore : Stops isSpace more) {l : L} (hT : TokLeft l)
    (ht : l.tokRev = prev.reverse) (h : l.right = crs ++ asc NL :: (ws ++ more)) :
    ∃ l', CmdRun l l' ∧ l'.tokRev = [] ∧ l'.right = more ∧ views l' = views l ++ [(.command, prev)] := by
  have hf : FolOK (asc NL :: (ws ++ more)) := FolOK.of_head _ (by decide) (by decide)
  obtain ⟨l1, e1, r1, t1, k1, hT1⟩ := scan_spec (scan_of_ok hf crs (cmdScanOK_crsp crs fun r hr => Or.inl (hcrs r hr)))
    hf.1 l hT h
  obtain ⟨e2, e3, e4⟩ := endLine_spec hprev hcrs hws hmore hT1 (by rw [t1, ht]) r1
  exact ⟨_, e1.trans (CmdRun.step (fun f => cmdF_nl f r1 rfl) (by rw [e3, r1]; simp; omega)), e2, e3,
    by rw [e4, views_of_toks k1]⟩

theorem closeCmd_nil {rest : List Rune} {l : L} (ht : l.tokRev = []) (hr : l.right = asc RBRACE :: rest) :
    (closeCmd l).tokRev = [] ∧ (closeCmd l).right = asc RBRACE :: rest ∧ views (closeCmd l) = views l := by
  have hT := (TokLeft.of_nil ht).readsTo (.peek _)
  have e : closeCmd l = skipWs (l.peek).1 := by
    have h3 : stripCR (l.peek).1 = (l.peek).1 := by unfold stripCR; simp [hT.lastIs, ht]
    simp [closeCmd, hT.lastIs, ht, h3]
  rw [e]
  exact ⟨by simp, by rw [skipWs_right, L.peek_right, hr]; exact dropWhile_of_stops (Stops.cons (by simp) _), by simp⟩

/-- one-line style: the closing brace after the last command `prev`, carriage returns and at most one blank, all held
    in the token buffer: the command is emitted without the blank and the carriage returns -/
theorem closeCmd_spec {prev crs sp rest : List Rune} (hne : prev ≠ []) (hprev : endsWithCp prev CR = false)
    (hcrs : ∀ r ∈ crs, r.cp = CR) (hsp : sp = [] ∨ sp = [asc SP])
    (hblank : crs = [] → sp = [] → endsWithCp prev SP = false) {l : L} (hT : TokLeft l)
    (ht : l.tokRev = sp.reverse ++ (crs.reverse ++ prev.reverse)) (hr : l.right = asc RBRACE :: rest) :
    (closeCmd l).tokRev = [] ∧ (closeCmd l).right = asc RBRACE :: rest ∧
      views (closeCmd l) = views l ++ [(.command, prev)] := by
  have hsp' : ∀ r ∈ sp, r.cp = SP := by rcases hsp with rfl | rfl <;> simp
  have mT := (hT.readsTo (.peek _))
  have mt : (l.peek).1.tokRev = sp.reverse ++ (crs.reverse ++ prev.reverse) := by simpa using ht
  -- dropping one trailing blank
  obtain ⟨m2, hm2, m2T, m2t, m2r, m2k⟩ : ∃ m2, (if (l.peek).1.lastIs SP then (l.peek).1.stepBack else (l.peek).1) = m2 ∧
      TokLeft m2 ∧ m2.tokRev = crs.reverse ++ prev.reverse ∧ m2.right = sp ++ asc RBRACE :: rest ∧ m2.toks = l.toks := by
    rcases hsp with rfl | rfl
    · -- no blank: the token does not end in one
      have hno : (l.peek).1.lastIs SP = false := by
        rw [mT.lastIs, mt]
        cases hcr : crs.reverse with
        | cons x xs => simp [hcrs x (by rw [← List.mem_reverse, hcr]; simp)]
        | nil =>
          cases hp : prev.reverse with
          | nil => exact absurd (by simpa using hp) hne
          | cons x xs => simpa using head?_reverse_ne (hblank (by simpa using hcr) rfl) x (by simp [hp])
      exact ⟨_, by simp [hno], mT, by simpa using mt, by simpa using hr, by simp⟩
    · have hyes : (l.peek).1.lastIs SP = true := by rw [mT.lastIs, mt]; rfl
      obtain ⟨s1, s3, s4, sT, -⟩ := mT.stepBack (x := asc SP) (by simpa using mt)
      exact ⟨_, by simp [hyes], sT, s1, by simpa [hr] using s3, by simpa using s4⟩
  obtain ⟨c1, c3, c4⟩ := stripCR_spec hprev hcrs m2T m2t
  have hnonempty : (stripCR m2).tokRev.isEmpty = false := by
    rw [c1]; cases hp : prev.reverse with
    | nil => exact absurd (by simpa using hp) hne
    | cons x xs => rfl
  have e : closeCmd l = skipWs ((stripCR m2).emit .command) := by simp [closeCmd, hm2, hnonempty]
  have hw : Ws (crs ++ sp) := ws_append (fun x hx => isSpace_of_cp (hcrs x hx) isSpaceCp_CR)
    (fun x hx => isSpace_of_cp (hsp' x hx) isSpaceCp_SP)
  rw [e]
  refine ⟨by simp, ?_, by simp [views_of_toks c4, views_of_toks m2k, c1]⟩
  rw [skipWs_right, L.emit_right, c3, m2r, ← List.append_assoc]
  exact dropWhile_append_stops hw (Stops.cons (by simp) _)

theorem end_spec {prev e rest : List Rune} (he : CmdEnd prev e) (hne : prev ≠ []) (hprev : endsWithCp prev CR = false)
    (hrest : ∀ r, rest.head? = some r → r.cp ≠ RBRACE ∧ r.cp ≠ LBRACE) {l : L} (hT : TokLeft l)
    (ht : l.tokRev = prev.reverse) (h : l.right = e ++ asc RBRACE :: rest) :
    ∃ l', CmdEnds l (l', .rightBrace) ∧ l'.tokRev = [] ∧ l'.right = asc RBRACE :: rest ∧
      views l' = views l ++ [(.command, prev)] := by
  have hb : brace2 rest = false := by
    cases hb : brace2 rest with
    | false => rfl
    | true =>
      obtain ⟨a, b, rest', rfl, ha, _⟩ := PW.brace2_heads hb
      have := hrest a rfl
      omega
  rcases he with ⟨crs, ws, hcrs, hws, rfl⟩ | ⟨crs, sp, hcrs, hsp, rfl, hblank⟩
  · -- a separator: the command is emitted at the newline, the token buffer is empty at the brace
    obtain ⟨l1, e1, t1, r1, v1⟩ := sep_spec (more := asc RBRACE :: rest) hprev hcrs hws (Stops.cons (by simp) _) hT ht
      (by rw [h]; simp)
    obtain ⟨c1, c2, c3⟩ := closeCmd_nil t1 r1
    exact ⟨_, ⟨_, e1, fun f => cmdF_close f r1 rfl hb⟩, c1, c2, by rw [c3, v1]⟩
  · -- one-line style: `CR*`, at most one blank, the brace
    have hf : FolOK (asc RBRACE :: rest) := FolOK.close hrest
    have hsp' : ∀ r ∈ sp, r.cp = SP := by rcases hsp with rfl | rfl <;> simp
    obtain ⟨l1, e1, r1, t1, k1, hT1⟩ := scan_spec (scan_of_ok hf (crs ++ sp) (cmdScanOK_crsp _ fun r hr =>
      (List.mem_append.1 hr).imp (hcrs r) (hsp' r))) hf.1 l hT h
    obtain ⟨c1, c2, c3⟩ := closeCmd_spec hne hprev hcrs hsp hblank hT1 (by simp [t1, ht]) r1
    exact ⟨_, ⟨_, e1, fun f => cmdF_close f r1 rfl hb⟩, c1, c2, by rw [c3, views_of_toks k1]⟩

/-! ## all commands of a body -/

theorem FolOK.sep {sep : List Rune} (h : CmdSep sep) (more : List Rune) : FolOK (sep ++ more) := by
  obtain ⟨crs, ws, hcrs, _, rfl⟩ := h
  cases crs with
  | nil => exact FolOK.of_head _ (by decide) (by decide)
  | cons x xs =>
    have hx : x.cp = CR := hcrs x (by simp)
    exact FolOK.of_head _ (by rw [hx]; decide) (by rw [hx]; decide)

theorem FolOK.more {cs : List (List Rune)} {prev b : List Rune} (h : MoreCmds cs prev b) {rest : List Rune}
    (hrest : ∀ r, rest.head? = some r → r.cp ≠ RBRACE ∧ r.cp ≠ LBRACE) : FolOK (b ++ asc RBRACE :: rest) := by
  cases h with
  | done prev e he =>
    rcases he with he | ⟨crs, sp, hcrs, hsp, rfl, _⟩
    · exact FolOK.sep he _
    · cases crs with
      | cons x xs =>
        have hx : x.cp = CR := hcrs x (by simp)
        exact FolOK.of_head _ (by rw [hx]; decide) (by rw [hx]; decide)
      | nil =>
        rcases hsp with rfl | rfl
        · exact FolOK.close hrest
        · exact FolOK.of_head _ (by decide) (by decide)
  | cons prev sep c cs rest' hsep _ _ =>
    have := FolOK.sep hsep (c ++ rest' ++ asc RBRACE :: rest)
    simpa using this

/-- with the command `prev` in the token buffer and the remaining commands `cs` ahead, the loop
    emits `prev :: cs` and stops in front of the closing brace -/
theorem moreCmds_spec {cs : List (List Rune)} {prev b : List Rune} (hm : MoreCmds cs prev b) :
    ∀ {rest : List Rune}, (∀ r, rest.head? = some r → r.cp ≠ RBRACE ∧ r.cp ≠ LBRACE) →
    prev ≠ [] → endsWithCp prev CR = false →
    ∀ {l : L}, TokLeft l → l.tokRev = prev.reverse → l.right = b ++ asc RBRACE :: rest →
    ∃ l', CmdEnds l (l', .rightBrace) ∧ l'.tokRev = [] ∧ l'.right = asc RBRACE :: rest ∧
      views l' = views l ++ (prev :: cs).map (fun c => (TT.command, c)) := by
  induction hm with
  | done prev e he =>
    intro rest hrest hne hprev l hT ht h
    simpa using end_spec he hne hprev hrest hT ht h
  | cons prev sep c cs rest' hsep hc hmore ih =>
    intro rest hrest hne hprev l hT ht h
    obtain ⟨crs, ws, hcrs, hws, rfl⟩ := hsep
    obtain ⟨a, c', rfl, ha, hscan, hcr⟩ : ∃ a c', c = a :: c' ∧ isSpace a = false ∧ cmdScanOK (a :: c') = true ∧
        endsWithCp (a :: c') CR = false := by
      cases c with
      | nil => exact absurd hc (by simp [NextCmdOK])
      | cons a c' => exact ⟨a, c', rfl, hc.1, hc.2.1, hc.2.2⟩
    have hf := FolOK.more hmore hrest
    obtain ⟨l1, e1, t1, r1, v1⟩ := sep_spec (more := (a :: c') ++ (rest' ++ asc RBRACE :: rest)) hprev hcrs hws
      (Stops.cons ha _) hT ht (by rw [h]; simp)
    obtain ⟨l2, e2, r2, t2, k2, hT2⟩ := scan_spec (scan_of_ok hf (a :: c') hscan) hf.1 l1 (TokLeft.of_nil t1) r1
    obtain ⟨l3, e3, t3, r3, v3⟩ := ih hrest (by simp) hcr hT2 (by rw [t2, t1]; simp) r2
    refine ⟨l3, e1.trans_ends (e2.trans_ends e3), t3, r3, ?_⟩
    rw [v3, views_of_toks k2, v1]; simp

/-! ## the body -/

/-- the commands of a non-empty body: `lexTaskBody` reads the first letter, `lexTaskCommands` does the rest -/
theorem go_cmds {a : Rune} {c' k : List Rune} {cs : List (List Rune)} {restb rest : List Rune} (ha : isLetter a = true)
    (hscan : cmdScanOK c' = true) (hcr : endsWithCp (a :: c') CR = false) (hmore : MoreCmds cs (a :: c') restb)
    (hrest : ∀ r, rest.head? = some r → r.cp ≠ RBRACE ∧ r.cp ≠ LBRACE) :
    Go .taskBody (a :: (c' ++ (restb ++ asc RBRACE :: rest))) k .rightBrace (asc RBRACE :: rest) []
      (((a :: c') :: cs).map fun c => (TT.command, c)) := by
  intro l hr _
  have hi := isIdent_of_isLetter ha
  have hm : (skipWs l).right = a :: (c' ++ (restb ++ asc RBRACE :: rest)) := by
    rw [skipWs_right, hr]; simp [isIdent_not_space hi]
  have hrb : a.cp ≠ RBRACE := cp_ne_of_ident hi (by simp)
  have e1 : lexTaskBody l = ((skipWs l).next.1, .taskCommands) := by simp [lexTaskBody, L.atEOF, hr, hm, hrb, ha]
  have hf := FolOK.more hmore hrest
  obtain ⟨l3, e3, r3, t3, k3, hT3⟩ := scan_spec (scan_of_ok hf c' hscan) hf.1 (skipWs l).next.1
    ((TokLeft.of_nil (by simp)).readsTo (.next hm)) (L.next_right_cons hm)
  obtain ⟨l4, e4, t4, r4, v4⟩ := moreCmds_spec hmore hrest (by simp) hcr hT3
    (by rw [t3, L.next_tokRev_cons hm]; simp) r3
  exact ⟨l4, (Reaches.step (t := .taskBody) rfl e1).trans (Reaches.step (t := .taskCommands) rfl (e3.trans_ends e4).finish),
    r4, t4, by rw [v4, views_of_toks k3]; simp⟩

theorem go_body {cmds : List (List Rune)} {b rest : List Rune} (hb : BodyText cmds b)
    (hrest : ∀ r, rest.head? = some r → r.cp ≠ RBRACE ∧ r.cp ≠ LBRACE) :
    Go .leftBrace (asc LBRACE :: (b ++ asc RBRACE :: rest)) [] .start rest []
      (vLBrace :: cmds.map (fun c => (TT.command, c)) ++ [vRBrace]) := by
  cases hb with
  | empty ws hws =>
    exact (((go_lexLeftBrace hws (Stops.cons (by simp) _)).trans (go_lexTaskBody_close rfl)).trans go_lexRightBrace).views
      (by simp [vLBrace, vRBrace])
  | cmds ws c cs restb hws hc hmore =>
    obtain ⟨a, c', rfl, ha, hscan, hcr⟩ : ∃ a c', c = a :: c' ∧ isLetter a = true ∧ cmdScanOK c' = true ∧
        endsWithCp (a :: c') CR = false := by
      cases c with
      | nil => exact absurd hc (by simp [FirstCmdOK])
      | cons a c' => exact ⟨a, c', rfl, hc.1, hc.2.1, hc.2.2⟩
    simp only [List.append_assoc, List.cons_append]
    exact (((go_lexLeftBrace hws (Stops.cons (isIdent_not_space (isIdent_of_isLetter ha)) _)).trans
      (go_cmds ha hscan hcr hmore hrest)).trans go_lexRightBrace).views (by simp [vLBrace, vRBrace])

end RT
end Spok
