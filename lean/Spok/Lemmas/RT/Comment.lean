import Spok.Lemmas.RT.States
/-! # Round trip: lexing a comment line: a comment statement (`LexStmtSpec Node.isComment`), a task's docstring -/
namespace Spok
namespace RT

theorem go_commentLine {c e rest : List Rune} (hc : CommentOK c) (he : Eol e ∨ (e = [] ∧ rest = []))
    (hcr : endsWithCp c CR = true → e ≠ [asc NL]) :
    Go .hash (asc HASH :: (c ++ (e ++ rest))) [] .start (e ++ rest) [] [vHash, (.comment, c)] :=
  go_lexHash.trans (go_lexComment hc
    (he.elim (fun he => Or.inr (eol_startsEol he rest)) fun ⟨h1, h2⟩ => Or.inl (by rw [h1, h2]; rfl))
    (by
      intro hcr1 r hr
      rcases he with (rfl | rfl) | ⟨rfl, rfl⟩
      · exact absurd rfl (hcr hcr1)
      · simp at hr; subst hr; simp
      · simp at hr))

end RT

open RT in
theorem lexStmt_comment : LexStmtSpec Node.isComment := by
  intro node txt rest hP hst l t hat
  cases hst with
  | comment c e rest hc he hcr =>
    simp only [List.append_assoc, List.cons_append] at hat
    obtain ⟨l', hR, hr', hk', hv'⟩ := (goes_enter_hash hat rfl).trans (go_commentLine hc he hcr)
    exact ⟨l', .start, hR, atStmt_start hk' hr' (he.elim eol_ws fun ⟨h1, _⟩ => h1 ▸ ws_nil), _, rfl, by simpa using hv'⟩
  | assignStr => exact hP.elim
  | assignCall => exact hP.elim
  | assignIdent => exact hP.elim
  | task => exact hP.elim

end Spok
