import Spok.Lemmas.RT.States
/-! # Round trip: lexing a parenthesised argument list (`LexParenSpec`) and the output clause of a task -/
namespace Spok
namespace RT

theorem itemsText_head {args : List Arg} {body : List Rune} (h : ItemsText args body) :
    ∃ r0 body', body = r0 :: body' ∧ (r0.cp = QUOTE ∨ isIdent r0 = true) := by
  cases h with
  | last a txt ws ha _ =>
    obtain ⟨r0, txt', rfl, h0⟩ := argText_head ha
    exact ⟨r0, _, rfl, h0⟩
  | lastComma a txt ws ws2 ha _ _ =>
    obtain ⟨r0, txt', rfl, h0⟩ := argText_head ha
    exact ⟨r0, _, rfl, h0⟩
  | cons a txt ws ws2 as rest ha _ _ _ =>
    obtain ⟨r0, txt', rfl, h0⟩ := argText_head ha
    exact ⟨r0, _, rfl, h0⟩

theorem go_items {args : List Arg} {r0 : Rune} {body : List Rune} (h : ItemsText args (r0 :: body)) :
    ∃ iv, ItemViews args iv ∧ ∀ {rp : Rune} {rest : List Rune}, rp.cp = RPAREN →
      Go (runeTag r0) (body ++ rp :: rest) [r0] .rightParen (rp :: rest) [] iv := by
  generalize hb : r0 :: body = body0 at h
  induction h generalizing r0 body with
  | last a txt ws ha hws =>
    obtain ⟨q0, txt', rfl, _⟩ := argText_head ha
    obtain ⟨rfl, rfl⟩ := List.cons.inj hb
    exact ⟨_, .last a, fun hrp => by simpa using go_arg ha hws ⟨_, _, rfl, Or.inl ⟨hrp, rfl⟩⟩⟩
  | lastComma a txt ws ws2 ha hws hw2 =>
    obtain ⟨q0, txt', rfl, _⟩ := argText_head ha
    obtain ⟨rfl, rfl⟩ := List.cons.inj hb
    exact ⟨_, .lastComma a, fun hrp => by
      simpa [vComma] using (go_arg ha hws ⟨_, _, rfl, Or.inr (Or.inl ⟨rfl, rfl⟩)⟩).trans (go_lexComma_rparen hw2 hrp)⟩
  | cons a txt ws ws2 as rest0 ha hws hw2 hrest ih =>
    obtain ⟨q0, txt', rfl, _⟩ := argText_head ha
    obtain ⟨rfl, rfl⟩ := List.cons.inj hb
    obtain ⟨r1, rest0', rfl, h1⟩ := itemsText_head hrest
    obtain ⟨iv, hiv, hgo⟩ := ih rfl
    exact ⟨_, .cons a as iv hiv, fun hrp => by
      simpa [vComma] using ((go_arg ha hws ⟨_, _, rfl, Or.inr (Or.inl ⟨rfl, rfl⟩)⟩).trans
        (go_lexComma_arg hw2 h1)).trans (hgo hrp)⟩

theorem parenText_head {args : List Arg} {p : List Rune} (h : ParenText args p) : ∃ p', p = asc LPAREN :: p' := by
  cases h with
  | empty ws _ => exact ⟨_, rfl⟩
  | items ws args body _ _ => exact ⟨_, rfl⟩

/-- Lexing `( … )`: the item tokens do not depend on the state the lexer starts in -/
theorem go_paren {args : List Arg} {p : List Rune} (hp : ParenText args p) :
    ∃ iv, ((args = [] ∧ iv = []) ∨ ItemViews args iv) ∧ ∀ {rest : List Rune},
      Go .leftParen (p ++ rest) [] .rightParen (asc RPAREN :: rest) [] (vLParen :: iv) := by
  cases hp with
  | empty ws hw =>
    refine ⟨[], Or.inl ⟨rfl, rfl⟩, fun {rest} => ?_⟩
    simp only [List.append_assoc, List.cons_append, List.nil_append]
    exact (go_lexLeftParen hw (Stops.cons (by simp) _)).trans
      (go_lexArgs_stop (ws := []) ws_nil ⟨_, _, rfl, Or.inl ⟨rfl, rfl⟩⟩)
  | items ws args body hw hbody =>
    obtain ⟨r0, body', rfl, h0⟩ := itemsText_head hbody
    obtain ⟨iv, hiv, hgo⟩ := go_items hbody
    refine ⟨iv, Or.inr hiv, fun {rest} => ?_⟩
    simp only [List.append_assoc, List.cons_append, List.nil_append]
    exact ((go_lexLeftParen hw (Stops.cons (space_of_arg_head h0) _)).trans (go_lexArgs_arg h0)).trans (hgo rfl)

theorem go_outs {outs : List Arg} {o : List Rune} (ho : OutsText outs o) :
    ∃ ov, OutsViews outs ov ∧ ∀ {more : List Rune},
      Go .rightParen (asc RPAREN :: (o ++ asc LBRACE :: more)) [] .leftBrace (asc LBRACE :: more) [] (vRParen :: ov) := by
  cases ho with
  | none ws hws => exact ⟨[], Or.inl ⟨rfl, rfl⟩, go_lexRightParen_lbrace hws⟩
  | single ws1 ws2 ws3 a txt hws1 hws2 harg hafter =>
    obtain ⟨r0, txt', rfl, h0⟩ := argText_head harg
    refine ⟨[vOutput, argView a], Or.inr (Or.inl ⟨a, rfl, rfl⟩), fun {more} => ?_⟩
    simp only [List.append_assoc, List.cons_append]
    exact ((go_lexRightParen_arrow hws1).trans (go_lexOutputOp_arg hws2 h0)).trans
      (go_arg harg hafter ⟨_, more, rfl, Or.inr (Or.inr ⟨rfl, rfl⟩)⟩)
  | list ws1 ws2 ws3 args p hws1 hws2 hws3 hne hp =>
    obtain ⟨iv, hiv, hgo⟩ := go_paren hp
    obtain ⟨p', rfl⟩ := parenText_head hp
    refine ⟨vOutput :: (vLParen :: iv ++ [vRParen]), Or.inr (Or.inr ⟨hne, _, ?_, rfl⟩), fun {more} => ?_⟩
    · exact hiv.elim (fun h => absurd h.1 hne) fun h => Or.inr ⟨iv, h, rfl⟩
    simp only [List.append_assoc, List.cons_append]
    exact ((((go_lexRightParen_arrow hws1).trans (go_lexOutputOp_paren hws2 rfl)).trans hgo).trans
      (go_lexRightParen_lbrace hws3)).views (by simp [vRParen, vOutput])

end RT

theorem lexParen_spec : LexParenSpec := by
  intro args p hp l rest hk hr
  obtain ⟨iv, hiv, hgo⟩ := RT.go_paren hp
  obtain ⟨l', hR, hr', hk', hv'⟩ := hgo l hr hk
  exact ⟨l', hR, hk', hr', iv, hiv, hv'⟩

end Spok
