import Spok.Lemmas.WfPrim
import Spok.Lemmas.WfCmd
import Spok.Lemmas.LexStep
/-! # Every state function of the lexer establishes the value-level stream invariant

`LiveV inp l t`: the scanner state `l`, about to run the state function `t`, finds what its predecessor
has left it (`Enter`), has its zipper on the input (`Z`), and has emitted tokens that any stream admissible
from the entry mode of `t` completes to an admissible stream (`TokInvV`; together `Zt`).  The entry mode is
`entryV t`, with two exceptions (`EntryM`): `lexStart` entered from `lexIdent`, at the end of the input, and
`lexIdent` entered from `lexStart`, in front of something that is not the keyword.

A hand-over keeps `Zt`; that the mode in which a state function hands over includes the entry mode of each
successor is a finite check on the state graph (`nodeOK`, through `subB`), so `HandOver.livev` gives the
successor's `LiveV`.  What is left per state function is the step over its prefix action, with the text of
the token it emits there (`Zt.scanIdent`, `Zt.scanComment`, `Zt.scanString`; the command loop is in
`WfLexCmd`). -/
namespace Spok.PW
open Spok

/-- does not begin with the keyword `task` -/
def NoKw (xs : List Rune) : Prop := (xs.take 4).map (·.cp) ≠ [116, 97, 115, 107]

/-- the stream mode in which a state function is entered -/
def entryV : Tag → VM
  | .start | .hash | .taskKeyword | .done | .spin => .top
  | .comment => .afterHash
  | .leftParen => .needLParen
  | .rightParen => .needRParen
  | .outputOp => .afterRParen
  | .leftBrace => .needLBrace
  | .rightBrace => .closing
  | .taskBody | .taskCommands => .body0
  | .taskName => .afterTask
  | .ident => .needIdent
  | .args => .args
  | .comma => .needComma
  | .declare => .afterIdent
  | .string => .needString
  | .declString => .afterDeclare

def EntryM (l : L) (t : Tag) (m : VM) : Prop :=
  m = entryV t ∨ (t = .start ∧ m = .atEnd ∧ l.right = []) ∨
    (t = .ident ∧ m = .needIdentS ∧ NoKw (l.tokRev.reverse ++ l.right))

/-- zipper and token invariant travel together -/
def Zt (inp : List Rune) (m : VM) (l : L) : Prop := Z inp l ∧ TokInvV inp m l

def LiveV (inp : List Rune) (l : L) : Tag → Prop
  | .done => StrV inp .top l.toks.toList
  | .spin => False
  | t => Enter l t ∧ ∃ m, EntryM l t m ∧ Zt inp m l

def InvV (inp : List Rune) (p : L × Tag) : Prop := LiveV inp p.1 p.2

variable {inp : List Rune} {l : L} {t : Tag} {m : VM}

theorem LiveV.intro (hf : t.final = false) (he : Enter l t) (hm : EntryM l t m) (hz : Zt inp m l) : LiveV inp l t := by
  cases t <;> first | exact ⟨he, m, hm, hz⟩ | cases hf

/-- every state function but `lexStart` and `lexIdent` is entered in its one entry mode -/
theorem LiveV.regular (h : LiveV inp l t) (hf : t.final = false) (h1 : t ≠ .start) (h2 : t ≠ .ident) :
    Enter l t ∧ Zt inp (entryV t) l := by
  have : Enter l t ∧ ∃ m, EntryM l t m ∧ Zt inp m l := by cases t <;> first | exact h | cases hf
  obtain ⟨he, m, rfl | ⟨e, _⟩ | ⟨e, _⟩, hz⟩ := this
  · exact ⟨he, hz⟩
  · exact absurd e h1
  · exact absurd e h2

/-! ## `Zt` along the primitives -/

namespace Zt
variable {l' : L} {xs : List Rune}

theorem readsTo (h : Zt inp m l) (r : l.ReadsTo xs l') : Zt inp m l' := ⟨h.1.readsTo r, h.2.congr r.toks⟩
theorem sub {m1 : VM} (h : Zt inp m l) (hs : Sub inp m1 m) : Zt inp m1 l := ⟨h.1, h.2.sub hs⟩
theorem discard (h : Zt inp m l) : Zt inp m l.discard := ⟨h.1.discard, h.2.congr rfl⟩
theorem skipWs (h : Zt inp m l) : Zt inp m (Spok.skipWs l) := ⟨h.1.skipWs, h.2.congr (skipWs_toks l)⟩

theorem emit {m' : VM} {ty : TT} (h : Zt inp m l) (ht : transV m ty = some m') (hok : tokOK inp m ty l.tokRev.reverse) :
    Zt inp m' (l.emit ty) := ⟨h.1.emit ty, h.2.emit ht hok⟩

theorem spelled {m' : VM} {ty : TT} (h : Zt inp m l) (n : Nat) (ht : transV m ty = some m')
    (hok : ∀ v, tokOK inp m ty v := by exact fun _ => trivial) : Zt inp m' ((l.absorb n).emit ty) :=
  emit ⟨h.1.absorb n, h.2.congr rfl⟩ ht (hok _)

end Zt

/-! ## the texts of the tokens -/

theorem identRunesB_takeWhile (xs : List Rune) : identRunesB (xs.takeWhile isIdent) = true := by
  simp only [identRunesB, List.all_eq_true]
  exact fun _ => of_mem_takeWhile

theorem kwPrefix_scanned {pre rest : List Rune} (h : NoKw (pre ++ rest)) :
    kwPrefix (pre ++ rest.takeWhile isIdent) = false := by
  cases hk : kwPrefix (pre ++ rest.takeWhile isIdent) with
  | false => rfl
  | true =>
    exfalso; apply h
    have hk' : ((pre ++ rest.takeWhile isIdent).take 4).map (·.cp) = [116, 97, 115, 107] := by simpa [kwPrefix] using hk
    have hlen : 4 ≤ (pre ++ rest.takeWhile isIdent).length := by
      have := congrArg List.length hk'
      simp only [List.length_map, List.length_take, List.length_cons, List.length_nil] at this
      omega
    have : pre ++ rest = (pre ++ rest.takeWhile isIdent) ++ rest.dropWhile isIdent := by
      simp [List.takeWhile_append_dropWhile]
    rw [this, List.take_append_of_le_length hlen]
    exact hk'

theorem strOKB_of {s : List Rune} (h1 : ∀ x ∈ s, x.cp ≠ QUOTE) (h2 : ∀ x ∈ s.tail, x.cp ≠ NL) : strOKB s = true := by
  simp only [strOKB, Bool.and_eq_true, List.all_eq_true]
  exact ⟨fun x hx => by simpa using h1 x hx, fun x hx => by simpa using h2 x hx⟩

theorem endsWithCp_reverse {tr : List Rune} {c : Nat} (h : ∀ x ts, tr = x :: ts → x.cp ≠ c) : endsWithCp tr.reverse c = false := by
  unfold endsWithCp
  cases tr with
  | nil => rfl
  | cons x ts => simpa using h x ts rfl

/-- the loop of `lexIdent` / `lexTaskName`, and the IDENT token: what was pending consists of identifier
    runes, is not empty unless a task name is scanned, and the text does not begin with the keyword where
    that matters -/
theorem Zt.scanIdent {m' : VM} (h : Zt inp m l) (ht : transV m .ident = some m')
    (hp : ∀ x ∈ l.tokRev, isIdent x = true) (hne : m ≠ .afterTask → l.tokRev ≠ [])
    (hk : kwM m = true → NoKw (l.tokRev.reverse ++ l.right)) : Zt inp m' ((Spok.scanIdent l).emit .ident) := by
  have r := scanIdent_reads l
  refine (h.readsTo r).emit ht ?_
  rw [r.tokRev, tokOK_ident]
  refine ⟨?_, fun hm => by simp [hne hm], fun hm => ?_, by rw [← r.tokRev]; exact (h.1.readsTo r).sl⟩
  · have := identRunesB_takeWhile l.right
    simp only [identRunesB, List.all_eq_true, List.reverse_append, List.reverse_reverse, List.mem_append,
      List.mem_reverse] at this ⊢
    exact fun x hx => hx.elim (hp x) (this x)
  · simpa using kwPrefix_scanned (hk hm)

/-- the loop of `lexComment`, and the COMMENT token: no newline in it, and in front of a line end or the
    end of the input -/
theorem Zt.scanComment {m' : VM} (h : Zt inp m l) (ht : transV m .comment = some m') (hn : l.tokRev = []) :
    Zt inp m' ((Spok.scanComment l).emit .comment) := by
  have r := scanComment_reads l
  refine (h.readsTo r).emit ht ?_
  refine ⟨?_, (h.1.readsTo r).sla (.of_eol (untilEol_stop r.right))⟩
  rw [r.tokRev, hn]
  simpa [commentOKB] using untilEol_noNL l.right

/-- the loop of `lexString` on a terminated string, and the STRING token: no quote inside, a newline at most
    in first position (`atEOL` is asked about what *follows* each rune), then the closing quote -/
theorem Zt.scanString {m' : VM} {l' : L} (h : Zt inp m l) (ht : transV m .string = some m')
    (hq : ∃ q, l.tokRev = [q] ∧ q.cp = QUOTE) (hs : Spok.scanString l = .ok l') : Zt inp m' (l'.emit .string) := by
  obtain ⟨q, htr, hq⟩ := hq
  obtain ⟨_, e, r⟩ := (scanString_reads l).1 l' hs
  obtain ⟨_, s, q2, rfl, hq2, hok⟩ := strSpan_ok e
  refine (h.readsTo r).emit ht ?_
  exact ⟨q, s, q2, by rw [r.tokRev, htr]; simp, hq, hq2, strOKB_of hok.1 hok.2, (h.1.readsTo r).sl⟩

theorem Zt.scanString_error {l' : L} (h : Zt inp m l) (h1 : m ≠ .afterHash) (h2 : m ≠ .afterTask)
    (hs : Spok.scanString l = .error l') : InvV inp l'.error :=
  (h.2.congr (scanString_toks l l' (Or.inr hs))).error h1 h2

def bodyM : Bool → VM
  | true => .body0
  | false => .body1

/-- the text of a COMMAND token.  The loop has scanned `s` behind `pre` (the letter `lexTaskBody` has read of
    the first command of a body; nothing for a later one), and strips `z` from the end of it again. -/
theorem cmd_tokOK {first : Bool} {pre s val z R : List Rune} (hscan : Scan R s) (hsplit : pre ++ s = val ++ z)
    (hz : ∀ x ∈ z, x.cp = CR ∨ x.cp = SP) (hend : endsWithCp val CR = false) (hsl : SlA inp val)
    (hfirst : first = true → ∃ a, isLetter a = true ∧ pre = [a])
    (hnext : first = false → pre = [] ∧ ∃ v vs, val = v :: vs ∧ isSpace v = false) :
    tokOK inp (bodyM first) .command val := by
  cases first with
  | true =>
    obtain ⟨a, ha, rfl⟩ := hfirst rfl
    cases val with
    | nil =>
      have := hz a (by rw [← List.nil_append z, ← hsplit]; simp)
      have := isLetter_ne_CR_SP ha
      omega
    | cons v vs =>
      obtain ⟨rfl, rfl⟩ := List.cons.inj hsplit
      refine ⟨fun _ => ?_, fun h => absurd rfl h, hsl⟩
      simp [firstCmdOKB, ha, cmdScanOK_of_scan hscan hz, hend]
  | false =>
    obtain ⟨rfl, v, vs, rfl, hv⟩ := hnext rfl
    subst hsplit
    refine ⟨nofun, fun _ => ?_, hsl⟩
    simp [nextCmdOKB, hv, cmdScanOK_of_scan hscan hz, hend]

/-! ## the hand-over -/

/-- the check of one node of the state graph: handing over in mode `m`, the state function of `t` may emit
    the final tokens it can emit, and `m` includes the entry mode of every successor not in `ex` -/
def nodeOK (t : Tag) (m : VM) (ex : List Tag) : Bool :=
  (!t.fails || (m != .afterHash && m != .afterTask)) && (t != .start || eofOK m) &&
  (nextTags t).all fun t' => t'.final || ex.contains t' || subB (entryV t') m

/-- a hand-over ends the stream or keeps `Zt`, and the successor — unless it is in `ex` — is entered in its
    entry mode -/
theorem _root_.Spok.HandOver.livev_but {p : L × Tag} (ex : List Tag) (h : HandOver t l p) (hz : Zt inp m l)
    (hok : nodeOK t m ex = true) :
    InvV inp p ∨ (p.2 ∈ ex ∧ p.2.final = false ∧ Enter p.1 p.2 ∧ Zt inp m p.1) := by
  simp only [nodeOK, Bool.and_eq_true, Bool.or_eq_true, List.all_eq_true, Bool.not_eq_true', bne_iff_ne, ne_eq,
    List.contains_iff_mem] at hok
  obtain ⟨⟨h1, h2⟩, h3⟩ := hok
  have live : ∀ {l' : L} {xs : List Rune}, l.ReadsTo xs l' → p.1 = l' → p.2.final = false →
      InvV inp p ∨ (p.2 ∈ ex ∧ p.2.final = false ∧ Enter p.1 p.2 ∧ Zt inp m p.1) := by
    intro l' xs hl e hf
    have hz' : Zt inp m p.1 := e ▸ hz.readsTo hl
    rcases h3 _ h.tag_mem with (h4 | h4) | h4
    · rw [h4] at hf; cases hf
    · exact Or.inr ⟨h4, hf, h.enter hf, hz'⟩
    · exact Or.inl (LiveV.intro hf (h.enter hf) (Or.inl rfl) (hz'.sub (.of_subB h4)))
  cases h with
  | stay hl he => exact live hl rfl he.2.1
  | take hl _ _ hk => exact live hl rfl hk.final
  | error hl hf =>
    have := h1.resolve_left (by simp [hf])
    exact Or.inl ((hz.readsTo hl).2.error this.1 this.2)
  | eof hl hs => exact Or.inl ((hz.readsTo hl).2.eof (h2.resolve_left (by simp [hs])))

theorem _root_.Spok.HandOver.livev {p : L × Tag} (h : HandOver t l p) (hz : Zt inp m l)
    (hok : nodeOK t m [] = true) : InvV inp p :=
  (h.livev_but [] hz hok).elim id fun ⟨e, _⟩ => nomatch e

/-! ## the state functions -/

theorem livev_lexStart (h : LiveV inp l .start) : InvV inp (lexStart l) := by
  obtain ⟨he, m, hm, hz⟩ := h
  rcases hm with rfl | ⟨_, rfl, hr⟩ | ⟨e, _⟩
  · rcases lexStart_out.1.livev_but [.ident] hz.skipWs rfl with h | ⟨e, hf, he', hz'⟩
    · exact h
    · have e := List.mem_singleton.mp e
      -- an identifier that `lexStart` has not taken for the keyword
      have key : LiveV inp (lexStart l).1 .ident := by
        refine LiveV.intro rfl (e ▸ he') (Or.inr (Or.inr ⟨rfl, rfl, ?_⟩)) (hz'.sub (.of_subB rfl))
        rw [lexStart_out.1.text hf]
        intro hc
        simpa [L.hasPrefix, hc] using lexStart_out.2 e
      rw [InvV, e]; exact key
  · -- after the last identifier of the input: only the EOF token is left
    have hd := (lexStart_out (l := l)).1.done_of_nil (by rw [skipWs_right, hr]; rfl) (by decide)
    rcases lexStart_out.1.livev_but [.hash, .taskKeyword, .ident] hz.skipWs rfl with h | ⟨_, hf, _⟩
    · exact h
    · rw [hd] at hf; cases hf
  · cases e

theorem livev_lexIdent (h : LiveV inp l .ident) : InvV inp (lexIdent l) := by
  obtain ⟨⟨_, r, htr, hir⟩, m, hm, hz⟩ := h
  have hp : ∀ x ∈ l.tokRev, isIdent x = true := by simpa [htr, Taken] using hir
  have hz1 : Zt inp .afterIdent (skipWs ((scanIdent l).emit .ident)) := by
    rcases hm with rfl | ⟨e, _⟩ | ⟨_, rfl, hk⟩
    · exact (hz.scanIdent rfl hp (fun _ => by simp [htr]) nofun).skipWs
    · cases e
    · exact (hz.scanIdent rfl hp (fun _ => by simp [htr]) (fun _ => hk)).skipWs
  rcases lexIdent_out.1.livev_but [.start] hz1 rfl with h | ⟨e, hf, he', hz'⟩
  · exact h
  · have e := List.mem_singleton.mp e
    -- back to `lexStart`: at the end of the input
    have key : LiveV inp (lexIdent l).1 .start := by
      refine LiveV.intro rfl (e ▸ he') (Or.inr (Or.inl ⟨rfl, rfl, ?_⟩)) (hz'.sub (.of_subB rfl))
      have := (lexIdent_out (l := l)).1.text hf
      rw [lexIdent_out.2 e] at this
      exact (List.append_eq_nil_iff.mp this).2
    rw [InvV, e]; exact key

/-- `lexTaskCommands` is done in `WfLexCmd` -/
theorem livev_stepTag_but (ht : t ≠ .taskCommands) (h : LiveV inp l t) : InvV inp (stepTag l t) := by
  by_cases hs : t = .start
  · subst hs; exact livev_lexStart h
  by_cases hi : t = .ident
  · subst hi; exact livev_lexIdent h
  by_cases hd : t = .done
  · subst hd; exact h
  by_cases hsp : t = .spin
  · subst hsp; exact h
  have hf : t.final = false := by cases t <;> first | rfl | contradiction
  obtain ⟨he, hz⟩ := h.regular hf hs hi
  have hne : ∀ {c : Nat} {s : List Nat}, t.spell = c :: s → l.right ≠ [] :=
    fun e => L.right_ne_nil_of_hasPrefix (e ▸ he.1)
  cases t <;> simp only [stepTag]
  case hash => exact (lexHash_out (hne rfl)).livev (hz.spelled 1 rfl) rfl
  case comment => exact lexComment_out.livev (hz.scanComment rfl he.2) rfl
  case taskKeyword => exact (lexTaskKeyword_out (hne rfl)).livev (hz.spelled 4 rfl).skipWs rfl
  case leftParen => exact (lexLeftParen_out (hne rfl)).livev (hz.spelled 1 rfl).skipWs rfl
  case rightParen => exact (lexRightParen_out (hne rfl)).livev (hz.spelled 1 rfl).skipWs rfl
  case outputOp => exact (lexOutputOp_out (hne rfl)).livev (hz.spelled 2 rfl).skipWs rfl
  case leftBrace => exact (lexLeftBrace_out (hne rfl)).livev (hz.spelled 1 rfl).skipWs rfl
  case rightBrace => exact (lexRightBrace_out (hne rfl)).livev (hz.spelled 1 rfl) rfl
  case taskBody =>
    obtain ⟨l1, rfl | rfl, ho⟩ := lexTaskBody_out (l := l)
    · exact ho.livev hz rfl
    · exact ho.livev hz.skipWs rfl
  case taskName => exact lexTaskName_out.livev (hz.scanIdent rfl (by simp [he.nil]) (fun h => absurd rfl h) nofun).skipWs rfl
  case args => exact lexArgs_out.livev hz.skipWs rfl
  case comma => exact (lexComma_out (hne rfl)).livev (hz.spelled 1 rfl).skipWs rfl
  case declare =>
    have hr := skipWs_right_of_hasPrefix he.1 (by decide)
    exact (lexDeclare_out (by rw [hr]; exact hne rfl)).livev (hz.skipWs.spelled 2 rfl).skipWs rfl
  case string =>
    obtain ⟨l', hs, e⟩ | ⟨l', hs, ho⟩ := lexString_out (l := l)
    · rw [e]; exact hz.scanString_error (by decide) (by decide) hs
    · exact ho.livev (hz.scanString rfl he.2 hs) rfl
  case declString =>
    obtain ⟨l', hs, e⟩ | ⟨l', hs, ho⟩ := lexDeclString_out (l := l)
    · rw [e]; exact hz.scanString_error (by decide) (by decide) hs
    · obtain ⟨m, r, e⟩ := declTail_reads (l'.emit .string)
      exact ho.livev (e ▸ ((hz.scanString rfl he.2 hs).readsTo r).discard) rfl
  case start | ident | taskCommands | done | spin => contradiction

end Spok.PW
