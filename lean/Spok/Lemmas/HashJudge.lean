import Spok.Lemmas.Hash
import Spok.Judge.Hash
/-! # The observation the *model* hands to the judges of the hash engine (used by `…_judge_accepts_model`) -/
namespace Spok.Hash
open Spok.Judge.Hash

/-- how the oracle reads an observed entry: what the harness put there, as a model entry -/
def entryOf : Kind → Bytes → Entry
  | .file, c => .regular c
  | .dir, _ => .dir
  | .vanish, c => .regular c
  | _, _ => .unreadable

abbrev Obs := List (Kind × Path × Bytes)

def filesOf (es : Obs) : List (Path × Entry) := es.map fun e => (e.2.1, entryOf e.1 e.2.2)

def outOf : Except Err String → Out
  | .ok d => .digest d
  | .error _ => .error

/-- the observation the *model* would hand to the judge for one variant -/
def modelRun (sha : Bytes → Bytes) (rel : Rel) (es : Obs) : Run :=
  { rel := rel, kinds := es.map (·.1), outs := [outOf (digest sha (filesOf es))], leak := 0,
    expect := match digest sha (filesOf es) with | .ok d => some d | .error _ => none }

def cleanObs (es : Obs) : Bool := es.all fun e => e.1 == .file || e.1 == .dir

theorem modelRun_clean (sha : Bytes → Bytes) (rel : Rel) (es : Obs) : (modelRun sha rel es).clean = cleanObs es := by
  simp only [modelRun, Run.clean, cleanObs, List.all_map]
  rfl

theorem clean_readable {es : Obs} (h : cleanObs es = true) : ∀ pe ∈ filesOf es, pe.2 ≠ .unreadable := by
  intro pe hpe
  obtain ⟨⟨k, p, c⟩, he, rfl⟩ := List.mem_map.mp hpe
  have hk : (k == .file || k == .dir) = true := List.all_eq_true.mp h _ he
  cases k <;> first | exact Entry.noConfusion | cases hk

theorem clean_digest (sha : Bytes → Bytes) {es : Obs} (h : cleanObs es = true) :
    ∃ d, digest sha (filesOf es) = .ok d := digest_ok_of_readable sha (clean_readable h)

theorem modelRun_selfOk (sha : Bytes → Bytes) (rel : Rel) (es : Obs) : (modelRun sha rel es).selfOk = true := by
  rw [Run.selfOk, modelRun_clean]
  cases hc : cleanObs es with
  | false => rfl
  | true =>
    obtain ⟨d, hd⟩ := clean_digest sha hc
    simp [modelRun, hd, outOf]

/-- a member the harness made unreadable is unreadable for the model -/
theorem unreadable_mem {es : Obs} (h : (es.map (·.1)).any Kind.unreadable = true) :
    ∃ p, (p, Entry.unreadable) ∈ filesOf es := by
  obtain ⟨_, hk, hu⟩ := List.any_eq_true.mp h
  obtain ⟨⟨k, p, c⟩, he, rfl⟩ := List.mem_map.mp hk
  refine ⟨p, List.mem_map.mpr ⟨_, he, ?_⟩⟩
  cases k <;> first | rfl | cases hu

end Spok.Hash
