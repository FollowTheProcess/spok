import Spok.Lemmas.LexLine
import Spok.Lemmas.WfParse
/-! # Located streams, located errors

Every token of an admissible stream `Str n m ts` (see `LexLine`) sits on a line `1 … n`, or, if it is
the final ERROR token, cites such a line; so an error by which the parser rejects a token of the stream
(`PW.Rej`, see `WfParse`) cites a line of the input and quotes that same line (`GoodF`). -/
namespace Spok

/-- a syntax error that cites a line of the input and quotes that same line -/
def GoodF (n : Nat) (f : PFail) : Prop := ∃ e, f = .err e ∧ 1 ≤ e.cited ∧ e.cited ≤ n ∧ e.ctx = e.cited

def GoodOpt (n : Nat) : Option PFail → Prop
  | none => True
  | some f => GoodF n f

variable {c : PCtx} {t : Tok} {ts : List Tok} {m : Mode}

theorem lexErr_good (h1 : 1 ≤ t.errLine) (h2 : t.errLine ≤ c.nlines) : GoodF c.nlines (lexErr c t) := by
  refine ⟨⟨t.errLine, t.errLine⟩, ?_, h1, h2, rfl⟩
  simp [lexErr, h1, h2]

theorem illegal_good (h1 : 1 ≤ t.line) (h2 : t.line ≤ c.nlines) : GoodF c.nlines (illegal c t) := by
  refine ⟨⟨t.line, t.line⟩, ?_, h1, h2, rfl⟩
  have : (t.line == 0) = false := by simp; omega
  simp [illegal, this, h2]

theorem Str.nil_false {n : Nat} (h : Str n m []) : False := h

theorem trans_ne {ty : TT} {m' : Mode} (h : trans m ty = some m') : ty ≠ .eof ∧ ty ≠ .error := by
  constructor <;> rintro rfl <;> cases m <;> cases h

theorem Str.located {n : Nat} : ∀ {m : Mode} {ts : List Tok}, Str n m ts → ∀ t ∈ ts,
    (t.ty = .error → 1 ≤ t.errLine ∧ t.errLine ≤ n) ∧ (t.ty ≠ .error → 1 ≤ t.line ∧ t.line ≤ n)
  | _, [], h => h.elim
  | m, t :: ts, h => by
    intro x hx
    rcases h with ⟨rfl, hf⟩ | ⟨h1, h2, m', hm, hs⟩
    · obtain rfl : x = t := by simpa using hx
      rcases hf with ⟨_, he, h1, h2⟩ | ⟨_, he, h1, h2⟩
      · exact ⟨fun h => (by rw [he] at h; cases h), fun _ => ⟨h1, h2⟩⟩
      · exact ⟨fun _ => ⟨h1, h2⟩, fun h => absurd he h⟩
    · rcases List.mem_cons.mp hx with rfl | hx
      · exact ⟨fun h => absurd h (trans_ne hm).2, fun _ => ⟨h1, h2⟩⟩
      · exact hs.located x hx

theorem Str.errors_located {n : Nat} {m : Mode} {ts : List Tok} (h : Str n m ts) :
    ∀ t ∈ ts, t.ty = .error → 1 ≤ t.errLine ∧ t.errLine ≤ n := fun t ht => (h.located t ht).1

theorem Str.lines_located {n : Nat} {m : Mode} {ts : List Tok} (h : Str n m ts) :
    ∀ t ∈ ts, t.ty ≠ .error → 1 ≤ t.line ∧ t.line ≤ n := fun t ht => (h.located t ht).2

theorem PW.Rej.good {f : PFail} (h : PW.Rej c ts f)
    (he : ∀ t ∈ ts, t.ty = .error → 1 ≤ t.errLine ∧ t.errLine ≤ c.nlines)
    (hl : ∀ t ∈ ts, t.ty ≠ .error → 1 ≤ t.line ∧ t.line ≤ c.nlines) : GoodF c.nlines f := by
  obtain ⟨t, ht, ⟨hty, rfl⟩ | ⟨hty, rfl⟩⟩ := h
  · exact lexErr_good (he t ht hty).1 (he t ht hty).2
  · exact illegal_good (hl t ht hty).1 (hl t ht hty).2

theorem Str.ends {n : Nat} : ∀ {m : Mode} {ts : List Tok}, Str n m ts →
    ∃ pre last, ts = pre ++ [last] ∧ (last.ty = .eof ∨ last.ty = .error) ∧
      ∀ t ∈ pre, t.ty ≠ .eof ∧ t.ty ≠ .error
  | _, [], h => h.elim
  | m, t :: ts, h => by
    rcases h with ⟨rfl, hf⟩ | ⟨_, _, m', hm, hs⟩
    · refine ⟨[], t, rfl, ?_, by simp⟩
      rcases hf with ⟨_, h, _⟩ | ⟨_, h, _⟩
      · exact Or.inl h
      · exact Or.inr h
    · obtain ⟨pre, last, rfl, hl, hp⟩ := Str.ends hs
      exact ⟨t :: pre, last, rfl, hl, List.forall_mem_cons.mpr ⟨trans_ne hm, hp⟩⟩

end Spok
