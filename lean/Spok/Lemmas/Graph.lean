import Spok.Graph
import Spok.Lemmas.ListFind
/-! # Generic lemmas for the graph engine (C03): oracle-driven iteration order, emission sequences, cycles

Nothing here mentions spok: `reorder` always yields a permutation; an *emission sequence* over a finite graph (each
element is new and all its parents were emitted before) is duplicate-free and topologically ordered, no element of it
lies on a cycle, and one that cannot be extended either covers the graph or the graph has a cycle.  The last fact is
the pigeonhole argument of DESIGN §7.2; it is proved here without counting, by contracting one vertex at a time
(`cycle_of_no_source`). -/
namespace Spok.Graph

variable {α : Type} [DecidableEq α]

theorem reorder_perm (h l : List α) : (reorder h l).Perm l := by
  induction h generalizing l with
  | nil => exact .refl _
  | cons x h ih =>
    simp only [reorder]
    split
    · next hx => exact ((ih _).cons x).trans (List.perm_cons_erase hx).symm
    · exact ih l

/-- every iteration order is dictated by some hint (the order itself) -/
theorem reorder_self {p l : List α} (hp : p.Perm l) : reorder p l = p := by
  induction p generalizing l with
  | nil => simpa [reorder] using hp.symm.eq_nil
  | cons x p ih =>
    have h := List.cons_perm_iff_perm_erase.mp hp
    simp only [reorder, h.1, if_true]
    rw [ih h.2]

theorem mem_reorder {h l : List α} {x : α} : x ∈ reorder h l ↔ x ∈ l := (reorder_perm h l).mem_iff

theorem nodup_reorder {h l : List α} (hl : l.Nodup) : (reorder h l).Nodup := (reorder_perm h l).symm.nodup hl

omit [DecidableEq α] in
/-- By removing one vertex `v` and short-cutting the paths through it: a cycle of the smaller graph expands to one of
    the original. -/
theorem cycle_of_no_source : ∀ (S : List α) (R : α → α → Prop), S ≠ [] → (∀ v ∈ S, ∃ p ∈ S, R p v) →
    ∃ v ∈ S, Relation.TransGen R v v := by
  intro S
  induction S with
  | nil => intro R h; exact absurd rfl h
  | cons v S ih =>
    intro R _ hsrc
    by_cases hvv : R v v
    · exact ⟨v, List.mem_cons_self, .single hvv⟩
    by_cases hS : S = []
    · obtain ⟨p, hp, hpv⟩ := hsrc v List.mem_cons_self
      subst hS
      have : p = v := by simpa using hp
      exact absurd (this ▸ hpv) hvv
    let R' : α → α → Prop := fun p c => R p c ∨ (R p v ∧ R v c)
    have lift : ∀ {a b}, Relation.TransGen R' a b → Relation.TransGen R a b := by
      intro a b h
      induction h with
      | single h =>
        rcases h with h | ⟨h1, h2⟩
        · exact .single h
        · exact .tail (.single h1) h2
      | tail _ h ih =>
        rcases h with h | ⟨h1, h2⟩
        · exact .tail ih h
        · exact .tail (.tail ih h1) h2
    have hsrc' : ∀ c ∈ S, ∃ p ∈ S, R' p c := by
      intro c hc
      obtain ⟨p, hp, hpc⟩ := hsrc c (List.mem_cons_of_mem _ hc)
      rcases List.mem_cons.mp hp with rfl | hpS
      · obtain ⟨p', hp', hp'v⟩ := hsrc p List.mem_cons_self
        rcases List.mem_cons.mp hp' with rfl | hp'S
        · exact absurd hp'v hvv
        · exact ⟨p', hp'S, Or.inr ⟨hp'v, hpc⟩⟩
      · exact ⟨p, hpS, Or.inl hpc⟩
    obtain ⟨w, hw, hcyc⟩ := ih R' hS hsrc'
    exact ⟨w, List.mem_cons_of_mem _ hw, lift hcyc⟩

/-! ## emission sequences -/

def Emit (V : List α) (E : List (α × α)) (acc : List α) (v : α) : Prop :=
  v ∈ V ∧ v ∉ acc ∧ ∀ p, (p, v) ∈ E → p ∈ acc

inductive EmitSeq (V : List α) (E : List (α × α)) : List α → Prop
  | nil : EmitSeq V E []
  | snoc {acc : List α} {v : α} : EmitSeq V E acc → Emit V E acc v → EmitSeq V E (acc ++ [v])

def Stuck (V : List α) (E : List (α × α)) (acc : List α) : Prop :=
  ∀ v ∈ V, v ∉ acc → ∃ p, (p, v) ∈ E ∧ p ∉ acc

omit [DecidableEq α] in
theorem EmitSeq.nodup {V : List α} {E : List (α × α)} {acc : List α} (h : EmitSeq V E acc) : acc.Nodup := by
  induction h with
  | nil => exact List.nodup_nil
  | snoc _ he ih => exact nodup_concat.2 ⟨ih, he.2.1⟩

omit [DecidableEq α] in
theorem EmitSeq.subset {V : List α} {E : List (α × α)} {acc : List α} (h : EmitSeq V E acc) : ∀ v ∈ acc, v ∈ V := by
  induction h with
  | nil => intro v hv; cases hv
  | @snoc acc w _ he ih =>
    intro v hv
    rcases List.mem_append.mp hv with hv | hv
    · exact ih v hv
    · have : v = w := by simpa using hv
      subst this; exact he.1

theorem EmitSeq.parents_before {V : List α} {E : List (α × α)} {acc : List α} (h : EmitSeq V E acc) :
    ∀ p v, (p, v) ∈ E → v ∈ acc → acc.idxOf p < acc.idxOf v := by
  induction h with
  | nil => intro p v _ hv; cases hv
  | @snoc acc w _ he ih =>
    intro p v hpv hv
    rw [List.idxOf_append, List.idxOf_append]
    by_cases hva : v ∈ acc
    · have h1 := ih p v hpv hva
      have hpa : p ∈ acc := List.idxOf_lt_length_iff.mp (Nat.lt_trans h1 (List.idxOf_lt_length_iff.mpr hva))
      simp only [hva, hpa, if_true]
      exact h1
    · have hvw : v = w := by
        rcases List.mem_append.mp hv with h' | h'
        · exact absurd h' hva
        · simpa using h'
      subst hvw
      have hpa : p ∈ acc := he.2.2 p hpv
      simp only [hva, hpa, if_true, if_false]
      have := List.idxOf_lt_length_iff.mpr hpa
      omega

theorem EmitSeq.parents_mem {V : List α} {E : List (α × α)} {acc : List α} (h : EmitSeq V E acc)
    {p v : α} (hpv : (p, v) ∈ E) (hv : v ∈ acc) : p ∈ acc :=
  List.idxOf_lt_length_iff.mp (Nat.lt_trans (h.parents_before p v hpv hv) (List.idxOf_lt_length_iff.mpr hv))

theorem EmitSeq.path_before {V : List α} {E : List (α × α)} {acc : List α} (h : EmitSeq V E acc) {a b : α}
    (hab : Relation.TransGen (fun p c => (p, c) ∈ E) a b) : b ∈ acc → acc.idxOf a < acc.idxOf b := by
  induction hab with
  | single hr => exact fun hb => h.parents_before _ _ hr hb
  | tail _ hr ih =>
    intro hc
    have h1 := h.parents_before _ _ hr hc
    exact Nat.lt_trans (ih (h.parents_mem hr hc)) h1

theorem EmitSeq.not_on_cycle {V : List α} {E : List (α × α)} {acc : List α} (h : EmitSeq V E acc) {v : α}
    (hv : v ∈ acc) : ¬ Relation.TransGen (fun p c => (p, c) ∈ E) v v :=
  fun hc => Nat.lt_irrefl _ (h.path_before hc hv)

theorem Stuck.covers_or_cycle {V : List α} {E : List (α × α)} {acc : List α}
    (hE : ∀ p c, (p, c) ∈ E → p ∈ V) (hstuck : Stuck V E acc) :
    (∀ v ∈ V, v ∈ acc) ∨ ∃ v ∈ V, v ∉ acc ∧ Relation.TransGen (fun p c => (p, c) ∈ E) v v := by
  by_cases hS : V.filter (fun v => v ∉ acc) = []
  · left
    intro v hv
    by_cases hva : v ∈ acc
    · exact hva
    · have : v ∈ V.filter (fun v => v ∉ acc) := by simp [hv, hva]
      rw [hS] at this; cases this
  · right
    have := cycle_of_no_source (V.filter (fun v => v ∉ acc)) (fun p c => (p, c) ∈ E) hS (by
      intro v hv
      have hv' : v ∈ V ∧ v ∉ acc := by simpa using hv
      obtain ⟨p, hpv, hpa⟩ := hstuck v hv'.1 hv'.2
      exact ⟨p, by simp [hE p v hpv, hpa], hpv⟩)
    obtain ⟨v, hv, hc⟩ := this
    have hv' : v ∈ V ∧ v ∉ acc := by simpa using hv
    exact ⟨v, hv'.1, hv'.2, hc⟩

omit [DecidableEq α] in
theorem covers_of_length {V acc : List α} (hn : acc.Nodup) (hs : ∀ v ∈ acc, v ∈ V) (hl : V.length ≤ acc.length) :
    ∀ v ∈ V, v ∈ acc := by
  intro v hv
  apply Classical.byContradiction
  intro hva
  have h1 : (v :: acc).Nodup := List.nodup_cons.mpr ⟨hva, hn⟩
  have h2 : (v :: acc) ⊆ V := by
    intro x hx
    rcases List.mem_cons.mp hx with rfl | hx
    · exact hv
    · exact hs x hx
  have := h1.length_le_of_subset h2
  simp at this
  omega

end Spok.Graph
