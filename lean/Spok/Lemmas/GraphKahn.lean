import Spok.Lemmas.Graph
/-! # `sort` (dag.Graph.Sort, Kahn's algorithm over Go maps) refines the emission relation, for every oracle

The loop invariant `KInv` says one thing: **the queue holds exactly the vertices that may be emitted next**
(`Emit V E acc`), each once, and `par` is `E` without the edges out of emitted vertices.  `sort_spec` is what the rest of
the development uses: whatever iteration orders the oracle dictates, `sort` never runs out of fuel, a returned order is
an emission sequence that cannot be extended (`EmitSeq`, `Stuck`), and the only error is "no vertex has in-degree 0". -/
namespace Spok.Graph

variable {α : Type} [DecidableEq α]

theorem inDegree_eq_zero_iff {par : List (α × α)} {c : α} : inDegree par c = 0 ↔ ∀ e ∈ par, e.2 ≠ c := by
  unfold inDegree
  simp

theorem mem_children {E : List (α × α)} {v c : α} : c ∈ children E v ↔ (v, c) ∈ E := by
  simp only [children, List.mem_map, List.mem_filter, decide_eq_true_eq]
  exact ⟨fun ⟨⟨_, _⟩, ⟨h1, rfl⟩, rfl⟩ => h1, fun h => ⟨(v, c), ⟨h, rfl⟩, rfl⟩⟩

theorem nodup_children {E : List (α × α)} (hE : E.Nodup) (v : α) : (children E v).Nodup := by
  refine List.pairwise_map.2 ((List.Pairwise.filter _ hE).imp_of_mem ?_)
  intro ⟨a, b⟩ ⟨a', b'⟩ ha ha' hne hb
  simp only [List.mem_filter, decide_eq_true_eq] at ha ha'
  simp only at hb
  exact hne (by rw [ha.2, ha'.2, hb])

theorem relax_eq (v : α) (cs : List α) (par : List (α × α)) (q : List α) :
    relax v cs (par, q) =
      (par.filter fun e => ¬ (e.1 = v ∧ e.2 ∈ cs), q ++ cs.filter fun c => ∀ e ∈ par, e.2 = c → e.1 = v) := by
  induction cs generalizing par q with
  | nil => exact Prod.ext (List.filter_eq_self.2 (by simp)).symm (List.append_nil q).symm
  | cons c cs ih =>
    have hdeg : inDegree (par.filter fun e => ¬ (e.1 = v ∧ e.2 = c)) c = 0 ↔ ∀ e ∈ par, e.2 = c → e.1 = v := by
      simp only [inDegree_eq_zero_iff, List.mem_filter, decide_eq_true_eq]
      exact ⟨fun h e he hec => Classical.byContradiction fun hev => h e ⟨he, fun hh => hev hh.1⟩ hec,
        fun h e he hec => he.2 ⟨h e he.1 hec, hec⟩⟩
    -- an edge that is not out of `v` survives the filter, so "all remaining parents are `v`" does not change
    have hkeep : ∀ c', (∀ e ∈ par.filter (fun e => ¬ (e.1 = v ∧ e.2 = c)), e.2 = c' → e.1 = v) ↔
        ∀ e ∈ par, e.2 = c' → e.1 = v := by
      intro c'
      simp only [List.mem_filter, decide_eq_true_eq]
      exact ⟨fun h e he hec => Classical.byContradiction fun hev => hev (h e ⟨he, fun hh => hev hh.1⟩ hec),
        fun h e he hec => h e he.1 hec⟩
    rw [relax, ih, List.filter_filter, List.filter_cons]
    simp only [hkeep, hdeg]
    congr 1
    · apply List.filter_congr
      intro e _
      by_cases h1 : e.1 = v <;> simp [h1, Bool.and_comm]
    · by_cases hc : ∀ e ∈ par, e.2 = c → e.1 = v
      · rw [if_pos hc, if_pos (decide_eq_true hc), List.append_assoc]; rfl
      · rw [if_neg hc, if_neg (fun h => hc (of_decide_eq_true h))]

structure KInv (V : List α) (E : List (α × α)) (q acc : List α) (par : List (α × α)) : Prop where
  seq : EmitSeq V E acc
  qnodup : q.Nodup
  queue : ∀ v, v ∈ q ↔ Emit V E acc v
  par_eq : par = E.filter fun e => e.1 ∉ acc

structure WF (V : List α) (E : List (α × α)) : Prop where
  vnodup : V.Nodup
  enodup : E.Nodup
  inV : ∀ p c, (p, c) ∈ E → p ∈ V ∧ c ∈ V

theorem kinv_init {V : List α} {E : List (α × α)} (hwf : WF V E) (o : Oracle α) :
    KInv V E (initQueue o ⟨V, E, 0⟩) [] E where
  seq := .nil
  qnodup := (nodup_reorder hwf.vnodup).sublist List.filter_sublist
  queue := by
    intro v
    simp only [initQueue, List.mem_filter, mem_reorder, decide_eq_true_eq, inDegree_eq_zero_iff, Emit, List.not_mem_nil,
      not_false_eq_true, true_and, imp_false]
    exact and_congr_right fun _ => ⟨fun h p hp => h (p, v) hp rfl, fun h e he hev => h e.1 (by rw [← hev]; exact he)⟩
  par_eq := (List.filter_eq_self.2 (by simp)).symm

theorem kinv_step {V : List α} {E : List (α × α)} (hwf : WF V E) {v : α} {q acc : List α} {par : List (α × α)}
    (h : KInv V E (v :: q) acc par) (hint : List α) :
    KInv V E (relax v (reorder hint (children E v)) (par, q)).2 (acc ++ [v])
      (relax v (reorder hint (children E v)) (par, q)).1 := by
  have hcsn : (reorder hint (children E v)).Nodup := nodup_reorder (nodup_children hwf.enodup v)
  have hcsm : ∀ c, c ∈ reorder hint (children E v) ↔ (v, c) ∈ E := fun c => mem_reorder.trans mem_children
  generalize reorder hint (children E v) = cs at *
  obtain ⟨hvV, hva, hvpar⟩ := (h.queue v).1 List.mem_cons_self
  have hvq := List.nodup_cons.mp h.qnodup
  -- `c` is queued by this pass iff `v` is a parent of `c` and all its parents are emitted after `v`
  have hnew : ∀ c, c ∈ cs.filter (fun c => ∀ e ∈ par, e.2 = c → e.1 = v) ↔
      (v, c) ∈ E ∧ ∀ p, (p, c) ∈ E → p ∈ acc ++ [v] := by
    intro c
    simp only [List.mem_filter, hcsm, decide_eq_true_eq, h.par_eq, List.mem_append, List.mem_singleton]
    exact and_congr_right fun _ => ⟨fun hc p hp => Classical.or_iff_not_imp_left.2 fun hpa => hc (p, c) ⟨hp, hpa⟩ rfl,
      fun hc e he hec => (hc e.1 (by rw [← hec]; exact he.1)).resolve_left he.2⟩
  rw [relax_eq]
  exact {
    seq := .snoc h.seq ⟨hvV, hva, hvpar⟩
    qnodup := by
      refine List.nodup_append.2 ⟨hvq.2, hcsn.sublist List.filter_sublist, ?_⟩
      rintro c hcq _ hcn rfl
      -- a vertex that was already queued had no parent left, `v` in particular
      exact hva (((h.queue c).1 (List.mem_cons_of_mem _ hcq)).2.2 v ((hnew c).1 hcn).1)
    queue := by
      intro w
      rw [List.mem_append, hnew]
      constructor
      · rintro (hw | ⟨hvw, hall⟩)
        · obtain ⟨h1, h2, h3⟩ := (h.queue w).1 (List.mem_cons_of_mem _ hw)
          refine ⟨h1, ?_, fun p hp => List.mem_append_left _ (h3 p hp)⟩
          rw [List.mem_append, List.mem_singleton, not_or]
          exact ⟨h2, fun hwv => hvq.1 (hwv ▸ hw)⟩
        · refine ⟨(hwf.inV v w hvw).2, ?_, hall⟩
          rw [List.mem_append, List.mem_singleton, not_or]
          exact ⟨fun hwa => hva (h.seq.parents_mem hvw hwa), fun hwv => hva (hvpar v (hwv ▸ hvw))⟩
      · rintro ⟨h1, h2, h3⟩
        rw [List.mem_append, List.mem_singleton, not_or] at h2
        by_cases hvw : (v, w) ∈ E
        · exact Or.inr ⟨hvw, h3⟩
        · left
          have : w ∈ v :: q := (h.queue w).2 ⟨h1, h2.1, fun p hp => by
            rcases List.mem_append.1 (h3 p hp) with hp' | hp'
            · exact hp'
            · exact absurd (List.mem_singleton.1 hp' ▸ hp) hvw⟩
          exact (List.mem_cons.1 this).resolve_left h2.2
    par_eq := by
      rw [h.par_eq, List.filter_filter]
      apply List.filter_congr
      intro e he
      have : e.1 = v → e.2 ∈ cs := fun hev => (hcsm _).2 (by rw [← hev]; exact he)
      by_cases h1 : e.1 = v <;> by_cases h2 : e.1 ∈ acc <;> simp [h1, h2, this, hva] }

theorem stuck_of_kinv {V : List α} {E : List (α × α)} {acc : List α} {par : List (α × α)}
    (h : KInv V E [] acc par) : Stuck V E acc := by
  intro v hv hva
  apply Classical.byContradiction
  intro hne
  have : v ∈ ([] : List α) := (h.queue v).2 ⟨hv, hva, fun p hp => Classical.byContradiction fun hpa => hne ⟨p, hp, hpa⟩⟩
  cases this

theorem kahnLoop_spec {V : List α} {E : List (α × α)} (hwf : WF V E) (o : Oracle α) :
    ∀ (fuel : Nat) (q acc : List α) (par : List (α × α)), KInv V E q acc par → V.length ≤ acc.length + fuel →
      ∃ r, kahnLoop o E fuel q acc par = some r ∧ EmitSeq V E r ∧ Stuck V E r := by
  intro fuel
  induction fuel with
  | zero =>
    intro q acc par h hf
    cases q with
    | nil => exact ⟨acc, by simp [kahnLoop], h.seq, stuck_of_kinv h⟩
    | cons v q =>
      -- `acc ++ [v]` is an emission sequence, hence duplicate-free inside `V`, hence no longer than `V`
      have hs : EmitSeq V E (acc ++ [v]) := .snoc h.seq ((h.queue v).1 List.mem_cons_self)
      have := hs.nodup.length_le_of_subset (fun x hx => hs.subset x hx)
      simp at this
      omega
  | succ fuel ih =>
    intro q acc par h hf
    cases q with
    | nil => exact ⟨acc, by simp [kahnLoop], h.seq, stuck_of_kinv h⟩
    | cons v q =>
      apply ih _ _ _ (kinv_step hwf h _)
      simp
      omega

/-- `dag.Graph.Sort` for every iteration order: never spins; a result is a maximal emission sequence; the only error is
    an empty initial queue, i.e. every vertex has a parent (or there is no vertex at all) -/
theorem sort_spec {g : Graph α} (hwf : WF g.verts g.edges) (o : Oracle α) :
    (∃ r, sort o g = .ok r ∧ EmitSeq g.verts g.edges r ∧ Stuck g.verts g.edges r) ∨
    (sort o g = .error .cycle ∧ Stuck g.verts g.edges []) := by
  have hinit : KInv g.verts g.edges (initQueue o g) [] g.edges := kinv_init hwf o
  unfold sort
  by_cases hq : initQueue o g = []
  · right
    simp only [hq, if_true, true_and]
    rw [hq] at hinit
    exact stuck_of_kinv hinit
  · left
    obtain ⟨r, hr, h1, h2⟩ := kahnLoop_spec hwf o g.verts.length _ _ _ hinit (by simp)
    exact ⟨r, by simp [hq, hr], h1, h2⟩

end Spok.Graph
