import Spok.Lemmas.LexLine
import Spok.Lemmas.Lines
/-! # The parser's line count and the lines the judge splits the input into

`nLines (decodeAll bs) = 1 + countNL bs = (splitLines bs).length` (from `nl_decodeAll`, `Lemmas/Lines.lean`), so
`trimmedLine bs i` exists for `1 ≤ i ≤ nLines`: the line a syntax error cites (C08). -/
namespace Spok
open Judge

theorem nLines_decodeAll (bs : List UInt8) : nLines (decodeAll bs) = 1 + countNL bs := by
  rw [nLines_eq, ← nl_eq_cntNL, nl_decodeAll]

theorem splitLines_go_length : ∀ (bs cur : List UInt8), (splitLines.go bs cur).length = 1 + countNL bs
  | [], cur => by simp [splitLines.go, countNL]
  | b :: rest, cur => by
    rw [splitLines.go, countNL_cons]
    by_cases h : b = 10
    · simp [h, splitLines_go_length rest]; omega
    · simp [h, splitLines_go_length rest]

theorem splitLines_length (bs : List UInt8) : (splitLines bs).length = 1 + countNL bs :=
  splitLines_go_length bs []

/-- the line an in-range error cites exists -/
theorem trimmedLine_isSome (bs : List UInt8) (i : Nat) (h1 : 1 ≤ i) (h2 : i ≤ 1 + countNL bs) :
    ∃ q, trimmedLine bs i = some q := by
  have hlt : i - 1 < (splitLines bs).length := by rw [splitLines_length]; omega
  refine ⟨flat (trimSpace (decodeAll (splitLines bs)[i - 1])), ?_⟩
  simp [trimmedLine, List.getElem?_eq_getElem hlt]

end Spok
