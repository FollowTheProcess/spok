import Spok.Lemmas.LexPrim
import Spok.Lemmas.WfTok
/-! # The scanner primitives and loops, seen through the zipper (for `parse_wf`)

`Z inp l`: the zipper of the scanner state `l` is a split of the input and the token under
construction (`tokRev`) is the stretch directly left of the cursor (`Z.pre`, which is `TokLeft l` of
`Lemmas/LexPrim.lean` written out; what stepping back and `stripCR` do is taken from there).  It is kept along
every forward movement (`Z.readsTo`), by `absorb`, `emit`, `discard` and by stepping back; `stripCR_spec` says
what `stripCR` removes from `tokRev` (exactly the trailing carriage returns).

`TokInvV inp m l` is the continuation-style token invariant: the tokens emitted so far, followed by
any stream admissible from mode `m`, form an admissible stream. -/
namespace Spok.PW
open Spok

@[simp] theorem atEOL_left (l : L) : (l.atEOL).1.left = l.left := L.peek_left l
@[simp] theorem nb_left (l : L) : (l.next).1.backup.left = l.left := L.peek_left l
@[simp] theorem nb_toks (l : L) : (l.next).1.backup.toks = l.toks := L.peek_toks l

@[simp] theorem absorb_toks (l : L) (n : Nat) : (l.absorb n).toks = l.toks := L.absorb_toks l n
@[simp] theorem emit_tokRev (l : L) (t : TT) : (l.emit t).tokRev = [] := L.emit_tokRev l t
@[simp] theorem emit_left (l : L) (t : TT) : (l.emit t).left = l.left := L.emit_left l t
@[simp] theorem discard_tokRev (l : L) : l.discard.tokRev = [] := L.discard_tokRev l
@[simp] theorem discard_left (l : L) : l.discard.left = l.left := L.discard_left l
@[simp] theorem discard_toks (l : L) : l.discard.toks = l.toks := L.discard_toks l
structure Z (inp : List Rune) (l : L) : Prop where
  zip : l.left.reverse ++ l.right = inp
  pre : ∃ before, l.left = l.tokRev ++ before

variable {inp : List Rune} {l : L}

theorem Z.slice (h : Z inp l) : ∃ pre, inp = pre ++ l.tokRev.reverse ++ l.right := by
  obtain ⟨before, hb⟩ := h.pre
  refine ⟨before.reverse, ?_⟩
  rw [← h.zip, hb]; simp

theorem Z.sl (h : Z inp l) : Sl inp l.tokRev.reverse := by
  obtain ⟨pre, hp⟩ := h.slice
  exact ⟨pre, l.right, hp⟩

theorem Z.sla (h : Z inp l) (ha : AscHead l.right) : SlA inp l.tokRev.reverse := by
  obtain ⟨pre, hp⟩ := h.slice
  exact ⟨pre, l.right, hp, ha⟩

theorem Z.readsTo {xs : List Rune} {l' : L} (h : Z inp l) (r : l.ReadsTo xs l') : Z inp l' := by
  obtain ⟨before, hb⟩ := h.pre
  exact ⟨by rw [r.left, ← h.zip, r.right]; simp, before, by rw [r.left, r.tokRev, hb]; simp⟩

theorem Z.next (h : Z inp l) : Z inp (l.next).1 := h.readsTo (.next_any l)
theorem Z.peek (h : Z inp l) : Z inp (l.peek).1 := h.readsTo (.peek l)

theorem Z.absorb (h : Z inp l) (n : Nat) : Z inp (l.absorb n) := by
  obtain ⟨before, hb⟩ := h.pre
  refine ⟨?_, before, ?_⟩
  · simp only [L.absorb, List.reverse_append, List.reverse_reverse, List.append_assoc, List.take_append_drop]
    exact h.zip
  · simp [L.absorb, hb]

theorem Z.emit (h : Z inp l) (t : TT) : Z inp (l.emit t) := ⟨h.zip, l.left, rfl⟩
theorem Z.discard (h : Z inp l) : Z inp l.discard := ⟨h.zip, l.left, rfl⟩

theorem Z.init (rs : List Rune) : Z rs (L.init rs) := ⟨by simp [L.init], [], by simp [L.init]⟩

theorem Z.lastIs_true (h : Z inp l) {c : Nat} (hl : l.lastIs c = true) :
    ∃ x ts, l.tokRev = x :: ts ∧ x.cp = c ∧ l.stepBack.tokRev = ts ∧ l.stepBack.right = x :: l.right ∧
      l.stepBack.toks = l.toks ∧ Z inp l.stepBack := by
  rw [TokLeft.lastIs h.pre] at hl
  cases ht : l.tokRev with
  | nil => simp [ht] at hl
  | cons x ts =>
    obtain ⟨h1, h2, h3, h4, h5⟩ := TokLeft.stepBack h.pre ht
    exact ⟨x, ts, rfl, by simpa [ht] using hl, h1, h2, h3, h5.trans h.zip, h4⟩

theorem Z.skipWs (h : Z inp l) : Z inp (skipWs l) := by
  obtain ⟨m, r, e⟩ := skipWs_reads l; rw [e]; exact (h.readsTo r).discard

theorem Z.scanIdent (h : Z inp l) : Z inp (scanIdent l) := h.readsTo (scanIdent_reads l)

theorem AscHead.of_eol {xs : List Rune} (h : xs = [] ∨ startsEol xs = true) : AscHead xs := by
  cases xs with
  | nil => trivial
  | cons a as =>
    show a.cp < 128
    simp only [startsEol, Bool.or_eq_true, Bool.and_eq_true, beq_iff_eq, reduceCtorEq, false_or] at h
    omega

/-- `stripCR` removes exactly the trailing carriage returns of the token and puts them back onto the input -/
theorem stripCR_spec (h : Z inp l) :
    ∃ z : List Rune, (∀ x ∈ z, x.cp = CR) ∧ l.tokRev.reverse = (stripCR l).tokRev.reverse ++ z ∧ (stripCR l).right = z ++ l.right ∧
      (stripCR l).toks = l.toks ∧ (∀ x ts, (stripCR l).tokRev = x :: ts → x.cp ≠ CR) ∧ Z inp (stripCR l) := by
  obtain ⟨e1, e2, e3, e4, e5⟩ := TokLeft.stripCR_eq h.pre
  refine ⟨_, fun x hx => ?_, ?_, e2, e3, fun x ts ht => ?_, e5.trans h.zip, e4⟩
  · simpa using of_mem_takeWhile (List.mem_reverse.mp hx)
  · rw [e1, ← List.reverse_append, List.takeWhile_append_dropWhile]
  · have := List.head?_dropWhile_not (·.cp == CR) l.tokRev
    rw [← e1, ht] at this
    simpa using this

def TokInvV (inp : List Rune) (m : VM) (l : L) : Prop :=
  ∀ suf, StrV inp m suf → StrV inp .top (l.toks.toList ++ suf)

theorem TokInvV.congr {m : VM} {l' : L} (h : TokInvV inp m l) (ht : l'.toks = l.toks) : TokInvV inp m l' := by
  intro suf hs; rw [ht]; exact h suf hs

theorem TokInvV.sub {m1 m2 : VM} (h : TokInvV inp m2 l) (hs : Sub inp m1 m2) : TokInvV inp m1 l :=
  fun suf hsuf => h suf (hsuf.sub hs)

theorem TokInvV.emit {m m' : VM} (h : TokInvV inp m l) {ty : TT} (ht : transV m ty = some m')
    (hok : tokOK inp m ty l.tokRev.reverse) : TokInvV inp m' (l.emit ty) := by
  intro suf hsuf
  rw [L.emit_toks, Array.toList_push, List.append_assoc]
  apply h
  exact Or.inr ⟨hok, m', ht, hsuf⟩

theorem TokInvV.error {m : VM} (h : TokInvV inp m l) (h1 : m ≠ .afterHash) (h2 : m ≠ .afterTask) :
    StrV inp .top (l.error).1.toks.toList := by
  rw [L.error_toks, Array.toList_push]
  apply h
  exact Or.inl ⟨rfl, Or.inl ⟨rfl, h1, h2⟩⟩

theorem TokInvV.eof {m : VM} (h : TokInvV inp m l) (h1 : eofOK m = true) : StrV inp .top (l.emit .eof).toks.toList := by
  rw [L.emit_toks, Array.toList_push]
  apply h
  exact Or.inl ⟨rfl, Or.inr ⟨rfl, h1⟩⟩

theorem TokInvV.init (rs : List Rune) : TokInvV inp .top (L.init rs) := by
  intro suf hs; simpa [L.init] using hs

end Spok.PW
