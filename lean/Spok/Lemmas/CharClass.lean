import Spok.Syntax.Lexer
/-! # Character classes: lookups in Go's Unicode range tables, and the class facts the lexer proofs use

A lookup only depends on the ranges around the code point (`inTable_filter`).  This is what keeps the
expectations over the regenerated tables (`Props/Facts.lean`) cheap: one pass over a table to filter it, then a
fact about the handful of ranges that are left.

What the round trip needs besides (identifier runes are neither white space nor punctuation of the syntax) is in
`RT/Chars.lean`. -/
namespace Spok

theorem inTable_filter (p : Nat × Nat × Nat → Bool) (c : Nat) (hp : ∀ e, e.1 ≤ c → c ≤ e.2.1 → p e = true) :
    ∀ t, inTable t c = inTable (t.filter p) c
  | [] => rfl
  | (lo, hi, stride) :: t => by
    rw [List.filter_cons]
    split
    · simp only [inTable, inTable_filter p c hp t]
    · rename_i h
      have : ¬ (lo ≤ c ∧ c ≤ hi) := fun hc => h (hp _ hc.1 hc.2)
      simp only [inTable, ← inTable_filter p c hp t, Bool.or_eq_right_iff_imp, Bool.and_eq_true, decide_eq_true_eq]
      exact fun hc => absurd hc.1 this

/-- U+FFFD (what an invalid byte and a read at the end of the input decode to) is not a letter -/
theorem isLetterCp_runeError : isLetterCp 0xFFFD = false := by
  rw [isLetterCp, if_neg (by decide), inTable_filter (fun e => e.1 ≤ 0xFFFD && 0xFFFD ≤ e.2.1) _ (by simp; omega),
    show Generated.Unicode.letter.filter (fun e => e.1 ≤ 0xFFFD && 0xFFFD ≤ e.2.1) = [] by decide +kernel]
  rfl

theorem isSpaceCp_runeError : isSpaceCp 0xFFFD = false := by decide

theorem isLetter_eofRune : isLetter eofRune = false := isLetterCp_runeError
theorem isIdent_eofRune : isIdent eofRune = false := by rw [isIdent, isLetter_eofRune]; rfl

theorem isLetter_ne_CR_SP {a : Rune} (h : isLetter a = true) : a.cp ≠ 13 ∧ a.cp ≠ 32 := by
  constructor <;> intro hc <;> rw [isLetter, hc] at h <;> revert h <;> decide

theorem isIdent_of_isLetter {r : Rune} (h : isLetter r = true) : isIdent r = true := by simp [isIdent, h]

theorem isSpaceCp_NL : isSpaceCp NL = true := by decide
theorem isSpaceCp_CR : isSpaceCp CR = true := by decide
theorem isSpaceCp_SP : isSpaceCp SP = true := by decide
theorem isSpaceCp_TAB : isSpaceCp TAB = true := by decide
theorem isSpaceCp_RBRACE : isSpaceCp RBRACE = false := by decide

theorem isSpace_of_cp {r : Rune} {c : Nat} (h : r.cp = c) (hc : isSpaceCp c = true) : isSpace r = true := by
  simp [isSpace, h, hc]

theorem isSpace_SP : isSpace (asc SP) = true := by decide

/-- what the loop of `lexDeclString` skips after the string -/
def isBlank (r : Rune) : Bool := r.cp == SP || r.cp == TAB

theorem isSpace_of_isBlank {r : Rune} (h : isBlank r = true) : isSpace r = true := by
  simp only [isBlank, Bool.or_eq_true, beq_iff_eq] at h
  exact h.elim (isSpace_of_cp · isSpaceCp_SP) (isSpace_of_cp · isSpaceCp_TAB)

end Spok
