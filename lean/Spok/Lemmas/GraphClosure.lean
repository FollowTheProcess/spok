import Spok.Graph
import Spok.Lemmas.ListFind
/-! # `load` and `closure` (file.New's duplicate check, buildGraph) meet their specification

`CInv` is the invariant of the closure's call stack; `closure_ok` / `closure_error` are what the rest of the
development uses: on success the graph's vertices are exactly the names reachable from the request, all defined, and its
edges are exactly the declared dependencies between them; it fails exactly when a reachable name is undefined, and the
`could not add edge` error (`Err.other`) is unreachable. -/
namespace Spok.Graph

variable {α : Type} [DecidableEq α]

/-! ## lookup / load -/

theorem lookup_isSome_iff {ts : Table α} {n : α} : (lookup ts n).isSome ↔ n ∈ names ts := by
  induction ts with
  | nil => simp [lookup, names]
  | cons t ts ih =>
    obtain ⟨m, ds⟩ := t
    by_cases hm : m = n
    · simp [lookup, names, hm]
    · have hn : ¬ n = m := fun h => hm h.symm
      simp only [lookup, hm, if_false, names, List.map_cons, List.mem_cons, hn, false_or]
      exact ih

theorem lookup_none_iff {ts : Table α} {n : α} : lookup ts n = none ↔ n ∉ names ts := by
  rw [← lookup_isSome_iff]; cases lookup ts n <;> simp

theorem loadFrom_eq (acc rest : Table α) :
    loadFrom acc rest =
      if (names rest).Nodup ∧ (∀ n ∈ names rest, n ∉ names acc) then .ok (acc ++ rest) else .error .duplicate := by
  induction rest generalizing acc with
  | nil => simp [loadFrom, names]
  | cons t rest ih =>
    obtain ⟨n, ds⟩ := t
    rw [loadFrom]
    by_cases hn : n ∈ names acc
    · rw [if_pos (lookup_isSome_iff.2 hn), if_neg fun h => h.2 n List.mem_cons_self hn]
    · rw [if_neg (mt lookup_isSome_iff.1 hn), ih]
      -- `n` joins `acc`: the rest must avoid `acc` and `n`, which is what a duplicate-free `n :: rest` avoiding `acc` says
      have hcond : ((names rest).Nodup ∧ ∀ m ∈ names rest, m ∉ names (acc ++ [(n, ds)])) ↔
          ((names ((n, ds) :: rest)).Nodup ∧ ∀ m ∈ names ((n, ds) :: rest), m ∉ names acc) := by
        simp only [names, List.map_cons, List.map_append, List.map_nil, List.mem_append, List.mem_singleton, not_or,
          List.nodup_cons, List.forall_mem_cons]
        exact ⟨fun ⟨h1, h2⟩ => ⟨⟨fun h => (h2 n h).2 rfl, h1⟩, hn, fun m hm => (h2 m hm).1⟩,
          fun ⟨⟨h0, h1⟩, _, h2⟩ => ⟨h1, fun m hm => ⟨h2 m hm, fun e => h0 (e ▸ hm)⟩⟩⟩
      simp only [hcond, List.append_assoc, List.singleton_append]

theorem load_eq (ts : Table α) : load ts = if (names ts).Nodup then .ok ts else .error .duplicate := by
  unfold load
  rw [loadFrom_eq]
  by_cases h : (names ts).Nodup
  · rw [if_pos h, if_pos ⟨h, by simp [names]⟩]; simp
  · rw [if_neg h, if_neg (fun h' => h h'.1)]

/-! ## the closure invariant -/

/-- symbolic run of the stack: every pending `AddEdge(d, _)` finds `d` in the graph, given that each pending `visit`
    that returns normally leaves its name in the graph -/
def edgeReady (vs : List α) : List (Frame α) → Prop
  | [] => True
  | .visit n _ :: st => edgeReady (n :: vs) st
  | .edge d _ :: st => d ∈ vs ∧ edgeReady vs st

omit [DecidableEq α] in
theorem edgeReady_mono {vs vs' : List α} (h : ∀ x ∈ vs, x ∈ vs') : ∀ {st : List (Frame α)}, edgeReady vs st → edgeReady vs' st := by
  intro st
  induction st generalizing vs vs' with
  | nil => intro _; trivial
  | cons f st ih =>
    cases f with
    | visit n p =>
      intro hr
      refine ih (vs := n :: vs) ?_ hr
      intro x hx
      rcases List.mem_cons.mp hx with rfl | hx
      · exact List.mem_cons_self
      · exact List.mem_cons_of_mem _ (h x hx)
    | edge d n =>
      intro hr
      exact ⟨h d hr.1, ih h hr.2⟩

omit [DecidableEq α] in
theorem edgeReady_frames (n : α) (ds : List α) {vs : List α} {st : List (Frame α)} (h : edgeReady vs st) :
    edgeReady vs (frames n ds ++ st) := by
  induction ds generalizing vs with
  | nil => simpa [frames] using h
  | cons d ds ih =>
    refine ⟨List.mem_cons_self, ih (edgeReady_mono (fun x hx => List.mem_cons_of_mem _ hx) h)⟩

omit [DecidableEq α] in
theorem edgeReady_requests (vs : List α) (req : List α) : edgeReady vs (req.map fun r => Frame.visit r none) := by
  induction req generalizing vs with
  | nil => trivial
  | cons r req ih => exact ih _

omit [DecidableEq α] in
theorem mem_frames_visit {n d : α} {p : Option α} {ds : List α} :
    Frame.visit d p ∈ frames n ds ↔ d ∈ ds ∧ p = some n := by
  simp only [frames, List.mem_flatMap, List.mem_cons, Frame.visit.injEq, List.not_mem_nil, or_false, reduceCtorEq]
  constructor
  · rintro ⟨x, hx, ⟨rfl, rfl⟩⟩; exact ⟨hx, rfl⟩
  · rintro ⟨hd, rfl⟩; exact ⟨d, hd, rfl, rfl⟩

omit [DecidableEq α] in
theorem mem_frames_edge {n d m : α} {ds : List α} :
    Frame.edge d m ∈ frames n ds ↔ d ∈ ds ∧ m = n := by
  simp only [frames, List.mem_flatMap, List.mem_cons, Frame.edge.injEq, List.not_mem_nil, or_false, reduceCtorEq, false_or]
  constructor
  · rintro ⟨x, hx, ⟨rfl, rfl⟩⟩; exact ⟨hx, rfl⟩
  · rintro ⟨hd, rfl⟩; exact ⟨d, hd, rfl, rfl⟩

omit [DecidableEq α] in
/-- "`x` is a vertex or waits on the stack to be visited" survives a step of the loop that pops `f`: the vertices and
    the rest of the stack only grow, and a popped visit leaves its name among the vertices -/
theorem covered_mono {vs vs' : List α} {f : Frame α} {st st' : List (Frame α)} {x : α}
    (hvs : ∀ y ∈ vs, y ∈ vs') (hf : ∀ n q, f = .visit n q → n ∈ vs') (hst : ∀ f' ∈ st, f' ∈ st')
    (h : x ∈ vs ∨ ∃ p, Frame.visit x p ∈ f :: st) : x ∈ vs' ∨ ∃ p, Frame.visit x p ∈ st' := by
  rcases h with h | ⟨p, hp⟩
  · exact .inl (hvs x h)
  · rcases List.mem_cons.1 hp with rfl | hp
    · exact .inl (hf x p rfl)
    · exact .inr ⟨p, hst _ hp⟩

structure CInv (ts : Table α) (req : List α) (g : Graph α) (st : List (Frame α)) : Prop where
  vnodup : g.verts.Nodup
  vreach : ∀ v ∈ g.verts, Reach ts req v ∧ (lookup ts v).isSome
  freach : ∀ n p, Frame.visit n p ∈ st → Reach ts req n
  fedge : ∀ d n, Frame.edge d n ∈ st → n ∈ g.verts ∧ d ∈ deps ts n
  reqs : ∀ r ∈ req, r ∈ g.verts ∨ ∃ p, Frame.visit r p ∈ st
  closed : ∀ v ∈ g.verts, ∀ d ∈ deps ts v, d ∈ g.verts ∨ ∃ p, Frame.visit d p ∈ st
  edged : ∀ v ∈ g.verts, ∀ d ∈ deps ts v, (d, v) ∈ g.edges ∨ Frame.edge d v ∈ st
  esound : ∀ p c, (p, c) ∈ g.edges → p ∈ g.verts ∧ c ∈ g.verts ∧ p ∈ deps ts c
  enodup : g.edges.Nodup
  ready : edgeReady g.verts st

theorem mem_insEdge {g : Graph α} {d n : α} {e : α × α} :
    e ∈ (g.insEdge d n).edges ↔ e ∈ g.edges ∨ e = (d, n) := by
  unfold Graph.insEdge
  split
  · exact ⟨.inl, fun h => h.elim id (· ▸ ‹_›)⟩
  · simp

theorem cinv_init (ts : Table α) (req : List α) : CInv ts req Graph.empty (req.map fun r => Frame.visit r none) where
  vnodup := List.nodup_nil
  vreach := by intro v hv; cases hv
  freach := by
    intro n p h
    simp only [List.mem_map, Frame.visit.injEq] at h
    obtain ⟨r, hr, rfl, _⟩ := h
    exact .req hr
  fedge := by intro d n h; simp at h
  reqs := by intro r hr; right; exact ⟨none, List.mem_map.mpr ⟨r, hr, rfl⟩⟩
  closed := by intro v hv; cases hv
  edged := by intro v hv; cases hv
  esound := by intro p c h; cases h
  enodup := List.nodup_nil
  ready := edgeReady_requests _ _

theorem cinv_edge {ts : Table α} {req : List α} {g : Graph α} {d n : α} {st : List (Frame α)}
    (h : CInv ts req g (Frame.edge d n :: st)) : CInv ts req (g.insEdge d n) st where
  vnodup := h.vnodup
  vreach := h.vreach
  freach := fun m p hm => h.freach m p (List.mem_cons_of_mem _ hm)
  fedge := fun d' n' hm => h.fedge d' n' (List.mem_cons_of_mem _ hm)
  reqs := fun r hr => covered_mono (fun _ h => h) (fun _ _ h => by cases h) (fun _ h => h) (h.reqs r hr)
  closed := fun v hv d' hd' =>
    covered_mono (fun _ h => h) (fun _ _ h => by cases h) (fun _ h => h) (h.closed v hv d' hd')
  edged := by
    intro v hv d' hd'
    rcases h.edged v hv d' hd' with h1 | h1
    · exact .inl (mem_insEdge.2 (.inl h1))
    · rcases List.mem_cons.1 h1 with h2 | h2
      · cases h2; exact .inl (mem_insEdge.2 (.inr rfl))
      · exact .inr h2
  esound := by
    intro p c hpc
    rcases mem_insEdge.1 hpc with h1 | h1
    · exact h.esound p c h1
    · cases h1
      exact ⟨h.ready.1, h.fedge d n List.mem_cons_self⟩
  enodup := by
    unfold Graph.insEdge
    by_cases hm : (d, n) ∈ g.edges
    · simpa [hm] using h.enodup
    · simp only [hm, if_false]
      exact nodup_concat.2 ⟨h.enodup, hm⟩
  ready := h.ready.2

theorem cinv_seen {ts : Table α} {req : List α} {g : Graph α} {n : α} {p : Option α} {st : List (Frame α)}
    (h : CInv ts req g (Frame.visit n p :: st)) (hn : n ∈ g.verts) : CInv ts req g st where
  vnodup := h.vnodup
  vreach := h.vreach
  freach := fun m q hm => h.freach m q (List.mem_cons_of_mem _ hm)
  fedge := fun d' n' hm => h.fedge d' n' (List.mem_cons_of_mem _ hm)
  reqs := fun r hr =>
    covered_mono (fun _ h => h) (fun _ _ h => (Frame.visit.inj h).1 ▸ hn) (fun _ h => h) (h.reqs r hr)
  closed := fun v hv d hd =>
    covered_mono (fun _ h => h) (fun _ _ h => (Frame.visit.inj h).1 ▸ hn) (fun _ h => h) (h.closed v hv d hd)
  edged := fun v hv d hd => (h.edged v hv d hd).imp id fun h1 => (List.mem_cons.1 h1).resolve_left (by simp)
  esound := h.esound
  enodup := h.enodup
  ready := edgeReady_mono (vs := n :: g.verts) (fun x hx => (List.mem_cons.1 hx).elim (· ▸ hn) id) h.ready

theorem cinv_new {ts : Table α} {req : List α} {g : Graph α} {n : α} {p : Option α} {ds : List α} {st : List (Frame α)}
    (h : CInv ts req g (Frame.visit n p :: st)) (hl : lookup ts n = some ds) (hn : n ∉ g.verts) :
    CInv ts req (g.addVertex n) (frames n ds ++ st) := by
  have hdeps : deps ts n = ds := by simp [deps, hl]
  have hreach : Reach ts req n := h.freach n p List.mem_cons_self
  have hv' : ∀ x, x ∈ (g.addVertex n).verts ↔ x ∈ g.verts ∨ x = n := by
    intro x; simp [Graph.addVertex]
  have hcov : ∀ {x}, (x ∈ g.verts ∨ ∃ q, Frame.visit x q ∈ Frame.visit n p :: st) →
      (x ∈ (g.addVertex n).verts ∨ ∃ q, Frame.visit x q ∈ frames n ds ++ st) :=
    covered_mono (fun y hy => (hv' y).2 (.inl hy)) (fun m _ hm => (hv' m).2 (.inr (Frame.visit.inj hm).1.symm))
      (fun _ hf => List.mem_append_right _ hf)
  exact {
    vnodup := nodup_concat.2 ⟨h.vnodup, hn⟩
    vreach := by
      intro v hv
      rcases (hv' v).mp hv with h1 | rfl
      · exact h.vreach v h1
      · exact ⟨hreach, by simp [hl]⟩
    freach := by
      intro m q hm
      rcases List.mem_append.1 hm with h1 | h1
      · exact .dep hreach (hdeps ▸ (mem_frames_visit.1 h1).1)
      · exact h.freach m q (List.mem_cons_of_mem _ h1)
    fedge := by
      intro d m hm
      rcases List.mem_append.mp hm with h1 | h1
      · obtain ⟨hd, rfl⟩ := mem_frames_edge.mp h1
        exact ⟨(hv' _).mpr (Or.inr rfl), hdeps ▸ hd⟩
      · have := h.fedge d m (List.mem_cons_of_mem _ h1)
        exact ⟨(hv' _).mpr (Or.inl this.1), this.2⟩
    reqs := fun r hr => hcov (h.reqs r hr)
    closed := by
      intro v hv d hd
      rcases (hv' v).mp hv with h1 | rfl
      · exact hcov (h.closed v h1 d hd)
      · exact .inr ⟨some v, List.mem_append_left _ (mem_frames_visit.2 ⟨hdeps ▸ hd, rfl⟩)⟩
    edged := by
      intro v hv d hd
      rcases (hv' v).mp hv with h1 | rfl
      · exact (h.edged v h1 d hd).imp id fun h2 => List.mem_append_right _ ((List.mem_cons.1 h2).resolve_left (by simp))
      · exact .inr (List.mem_append_left _ (mem_frames_edge.2 ⟨hdeps ▸ hd, rfl⟩))
    esound := fun a c hac =>
      have := h.esound a c hac
      ⟨(hv' _).2 (.inl this.1), (hv' _).2 (.inl this.2.1), this.2.2⟩
    enodup := h.enodup
    ready := edgeReady_frames n ds
      (edgeReady_mono (vs := n :: g.verts) (fun x hx => (hv' x).2 (List.mem_cons.1 hx).symm) h.ready) }

/-! ## what `closure` returns -/

structure Selected (ts : Table α) (req : List α) (g : Graph α) : Prop where
  vnodup : g.verts.Nodup
  enodup : g.edges.Nodup
  verts_iff : ∀ n, n ∈ g.verts ↔ Reach ts req n
  defined : ∀ n ∈ g.verts, (lookup ts n).isSome
  edges_iff : ∀ p c, (p, c) ∈ g.edges ↔ c ∈ g.verts ∧ p ∈ deps ts c

theorem selected_of_cinv {ts : Table α} {req : List α} {g : Graph α} (h : CInv ts req g []) : Selected ts req g where
  vnodup := h.vnodup
  enodup := h.enodup
  verts_iff := by
    intro n
    constructor
    · exact fun hn => (h.vreach n hn).1
    · intro hr
      induction hr with
      | req hr => exact (h.reqs _ hr).elim id fun ⟨_, hp⟩ => nomatch hp
      | dep _ hd ih => exact (h.closed _ ih _ hd).elim id fun ⟨_, hp⟩ => nomatch hp
  defined := fun n hn => (h.vreach n hn).2
  edges_iff := by
    intro p c
    exact ⟨fun hpc => (h.esound p c hpc).2, fun ⟨hc, hp⟩ => (h.edged c hc p hp).elim id (nomatch ·)⟩

theorem closureLoop_spec {ts : Table α} {req : List α} (g : Graph α) (st : List (Frame α)) (h : CInv ts req g st) :
    (∀ g', closureLoop ts g st = .ok g' → Selected ts req g') ∧
    (∀ e, closureLoop ts g st = .error e →
      (e = .noSuchTask ∨ e = .noSuchDependency) ∧ ∃ n, Reach ts req n ∧ lookup ts n = none) := by
  -- the branches of `closureLoop` in order: 1 the empty stack; an edge frame with 2 both ends in the graph, 3 one
  -- missing ("could not add edge"); a visit of 4 an undefined name, 5 a vertex, 6 a new name
  fun_induction closureLoop ts g st with
  | case1 g =>
    refine ⟨?_, ?_⟩
    · intro g' hg'
      cases hg'
      exact selected_of_cinv h
    · intro e he; cases he
  | case2 g d n st hc ih => exact ih (cinv_edge h)
  | case3 g d n st hc =>
    exfalso
    exact hc ⟨h.ready.1, (h.fedge d n List.mem_cons_self).1⟩
  | case4 g n p st hl =>
    refine ⟨fun g' hg' => (by cases hg'), ?_⟩
    intro e he
    cases he
    refine ⟨?_, n, h.freach n p List.mem_cons_self, hl⟩
    cases p <;> simp
  | case5 g n p st ds hl hv ih => exact ih (cinv_seen h hv)
  | case6 g n p st ds hl hv _ ih => exact ih (cinv_new h hl hv)

theorem closure_ok {ts : Table α} {req : List α} {g : Graph α} (h : closure ts req = .ok g) : Selected ts req g :=
  (closureLoop_spec _ _ (cinv_init ts req)).1 g h

theorem closure_error {ts : Table α} {req : List α} {e : Err} (h : closure ts req = .error e) :
    (e = .noSuchTask ∨ e = .noSuchDependency) ∧ ∃ n, Reach ts req n ∧ lookup ts n = none :=
  (closureLoop_spec _ _ (cinv_init ts req)).2 e h

theorem closure_error_iff {ts : Table α} {req : List α} :
    (∃ e, closure ts req = .error e) ↔ ∃ n, Reach ts req n ∧ lookup ts n = none := by
  constructor
  · rintro ⟨e, he⟩; exact (closure_error he).2
  · rintro ⟨n, hr, hl⟩
    cases hc : closure ts req with
    | error e => exact ⟨e, rfl⟩
    | ok g =>
      have hs := closure_ok hc
      have := hs.defined n ((hs.verts_iff n).mpr hr)
      rw [hl] at this; cases this

/-! ## the closure in a form the kernel evaluates -/

/-- `closureLoop` with the recursion made structural on a step budget, so that the kernel can evaluate concrete cases
    (`closureLoop` itself is a well-founded recursion, which `decide` does not unfold) -/
def closureN (ts : Table α) : Nat → Graph α → List (Frame α) → Option (Except Err (Graph α))
  | _, g, [] => some (.ok g)
  | 0, _, _ :: _ => none
  | k + 1, g, .edge d n :: st =>
    if d ∈ g.verts ∧ n ∈ g.verts then closureN ts k (g.insEdge d n) st else some (.error .other)
  | k + 1, g, .visit n p :: st =>
    match lookup ts n with
    | none => some (.error (if p.isNone then .noSuchTask else .noSuchDependency))
    | some ds => if n ∈ g.verts then closureN ts k g st else closureN ts k (g.addVertex n) (frames n ds ++ st)

theorem closureN_sound {ts : Table α} : ∀ {k : Nat} {g : Graph α} {st : List (Frame α)} {r : Except Err (Graph α)},
    closureN ts k g st = some r → closureLoop ts g st = r
  | _, g, [], r, h => by rw [closureLoop]; simpa [closureN] using h
  | 0, _, _ :: _, _, h => by simp [closureN] at h
  | k + 1, g, .edge d n :: st, r, h => by
    rw [closureLoop]; rw [closureN] at h
    split at h
    · rw [if_pos ‹_›]; exact closureN_sound h
    · rw [if_neg ‹_›]; simpa using h
  | k + 1, g, .visit n p :: st, r, h => by
    rw [closureLoop]; rw [closureN] at h
    split
    · next hl => rw [hl] at h; simpa using h
    · next ds hl =>
      split <;> simp only [*, if_true, if_false] at h <;> exact closureN_sound h

theorem closure_eq_closureN {ts : Table α} {req : List α} (k : Nat)
    (h : (closureN ts k Graph.empty (req.map fun r => Frame.visit r none)).isSome) :
    closure ts req = (closureN ts k Graph.empty (req.map fun r => Frame.visit r none)).get h :=
  closureN_sound (Option.some_get h).symm

end Spok.Graph
