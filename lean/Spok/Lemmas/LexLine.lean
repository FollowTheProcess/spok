import Spok.Lemmas.Lines
import Spok.Syntax.Parser
/-! # The lexer's line counter and the shape of its token stream: definitions and primitive lemmas

`Str n m ts` says that `ts` is a token stream the lexer can still emit from "mode" `m` (top level,
inside a task body, just after `#`, just after `task`): every token but the last is neither EOF nor
ERROR and sits on a line `1 … n`; a HASH is followed by a COMMENT, a TASK by an IDENT, an LBRACE by
COMMANDs up to an RBRACE or the final ERROR; the last token is an EOF on a line `1 … n` (top level
only) or an ERROR citing a line `1 … n` (top level or task body only).

`St inp m l` is the invariant of a live scanner state: the zipper is a split of the input, `line` is
one plus the number of newlines to the left of the cursor, `startLine` is a line of the input, and the
tokens emitted so far followed by any stream admissible from mode `m` form an admissible stream
(continuation style, so that one definition serves both the prefix invariant and the final result).

`Spok.RunesOK` is declared here and, with another meaning, in `Lemmas/LexWf.lean` (each tower asks of the input what its
invariant needs): no module can import both. -/
namespace Spok

def cntNL (rs : List Rune) : Nat := (rs.filter (·.cp == NL)).length

/-- in decoded input a newline is one byte wide (`backup` un-counts a line only `if width == 1`) -/
def RunesOK (rs : List Rune) : Prop := ∀ r ∈ rs, r.cp = NL → r.w = 1

inductive Mode where
  | top | body | afterHash | afterTask
deriving DecidableEq, Repr

/-- what a non-final token of type `ty` does to the mode; `none` = the lexer never emits it there -/
def trans : Mode → TT → Option Mode
  | .top, .lbrace => some .body
  | .top, .hash => some .afterHash
  | .top, .task => some .afterTask
  | .top, .lparen | .top, .rparen | .top, .comma | .top, .string | .top, .output | .top, .ident
  | .top, .declare => some .top
  | .body, .command => some .body
  | .body, .rbrace => some .top
  | .afterHash, .comment => some .top
  | .afterTask, .ident => some .top
  | _, _ => none

def FinTok (n : Nat) (m : Mode) (t : Tok) : Prop :=
  (m = .top ∧ t.ty = .eof ∧ 1 ≤ t.line ∧ t.line ≤ n) ∨
  ((m = .top ∨ m = .body) ∧ t.ty = .error ∧ 1 ≤ t.errLine ∧ t.errLine ≤ n)

def Str (n : Nat) : Mode → List Tok → Prop
  | _, [] => False
  | m, t :: ts =>
    (ts = [] ∧ FinTok n m t) ∨
    (1 ≤ t.line ∧ t.line ≤ n ∧ ∃ m', trans m t.ty = some m' ∧ Str n m' ts)

instance (n : Nat) (m : Mode) (t : Tok) : Decidable (FinTok n m t) := by unfold FinTok; infer_instance

/-- executable version, for sanity tests -/
def strB (n : Nat) : Mode → List Tok → Bool
  | _, [] => false
  | m, t :: ts =>
    (ts.isEmpty && decide (FinTok n m t)) ||
    (decide (1 ≤ t.line) && decide (t.line ≤ n) && match trans m t.ty with
      | some m' => strB n m' ts
      | none => false)

theorem cntNL_nil : cntNL [] = 0 := rfl
theorem nLines_eq (rs : List Rune) : nLines rs = 1 + cntNL rs := rfl
theorem nl_eq_cntNL (xs : List Rune) : nl xs = cntNL xs := by
  induction xs with
  | nil => rfl
  | cons x xs ih => rw [cntNL, List.filter_cons, nl_cons, ih]; split <;> simp [cntNL] <;> omega

def TokInv (n : Nat) (m : Mode) (l : L) : Prop :=
  ∀ suf, Str n m suf → Str n .top (l.toks.toList ++ suf)

structure St (inp : List Rune) (m : Mode) (l : L) : Prop where
  ok : RunesOK inp
  zip : l.left.reverse ++ l.right = inp
  line : l.line = 1 + nl l.left
  sl1 : 1 ≤ l.startLine
  sl2 : l.startLine ≤ nLines inp
  toks : TokInv (nLines inp) m l

/-- what is left of `St` after a `backup` with a stale `width`: enough for an ERROR token -/
structure Loose (inp : List Rune) (m : Mode) (l : L) : Prop where
  ln1 : 1 ≤ l.line
  ln2 : l.line ≤ nLines inp
  toks : TokInv (nLines inp) m l

variable {inp : List Rune} {m : Mode} {l : L}

theorem St.line_le (h : St inp m l) : l.line ≤ nLines inp := by
  rw [nLines_eq, ← nl_eq_cntNL, ← h.zip, nl_append, nl_reverse, h.line]; omega

theorem St.loose (h : St inp m l) : Loose inp m l := ⟨by have := h.line; omega, h.line_le, h.toks⟩

theorem St.nl1 (h : St inp m l) : NL1 l.right := fun r hr => h.ok r (by rw [← h.zip]; simp [hr])

theorem St.readsTo {xs : List Rune} {l' : L} (h : St inp m l) (r : l.ReadsTo xs l') : St inp m l' := by
  refine ⟨h.ok, ?_, ?_, r.startLine ▸ h.sl1, r.startLine ▸ h.sl2, fun suf hs => r.toks ▸ h.toks suf hs⟩
  · rw [r.left, ← h.zip, r.right]; simp
  · rw [r.line h.nl1, r.left, h.line, nl_append, nl_reverse]; omega

/-- `pos += len(spelling)` over a spelled token that has no newline in it -/
theorem St.absorb (h : St inp m l) {s : List Nat} (hp : l.hasPrefix s = true) (hs : ∀ c ∈ s, c ≠ NL) :
    St inp m (l.absorb s.length) := by
  refine ⟨h.ok, ?_, ?_, h.sl1, h.sl2, h.toks⟩
  · simpa [L.absorb] using h.zip
  · simp [L.absorb, h.line, nl_eq_zero fun r hr => hs _ ((L.cp_mem_of_hasPrefix hp).2 r hr)]

theorem St.emit (h : St inp m l) {ty : TT} {m' : Mode} (ht : trans m ty = some m') : St inp m' (l.emit ty) := by
  have h1 := h.line
  have h2 := h.line_le
  refine ⟨h.ok, h.zip, h.line, ?_, ?_, ?_⟩
  · show 1 ≤ l.line; omega
  · exact h2
  · intro suf hsuf
    show Str _ .top ((l.toks.push _).toList ++ suf)
    rw [Array.toList_push, List.append_assoc]
    apply h.toks
    exact Or.inr ⟨h.sl1, h.sl2, m', ht, hsuf⟩

theorem St.discard (h : St inp m l) : St inp m l.discard := by
  have h1 := h.line
  have h2 := h.line_le
  exact ⟨h.ok, h.zip, h.line, by show 1 ≤ l.line; omega, h2, h.toks⟩

theorem St.stepBack (h : St inp m l) {c : Nat} (hl : l.lastIs c = true) (hc : c ≠ NL) : St inp m l.stepBack := by
  obtain ⟨x, ls, t, ts, hx, h2, h1, e⟩ := L.stepBack_of_lastIs hl
  have hz := h.zip; have hln := h.line
  rw [h2] at hz; rw [h2, nl_cons] at hln
  rw [e]
  exact ⟨h.ok, by simpa using hz, by simpa [show x.cp ≠ NL by omega] using hln, h.sl1, h.sl2, h.toks⟩

/-- `backup` with whatever `width` is in the state: the line stays a line of the input -/
theorem St.backup (h : St inp m l) : Loose inp m l.backup := by
  have h1 := h.line
  have h2 := h.line_le
  unfold L.backup
  split
  · exact h.loose
  · cases hl : l.left with
    | nil => cases l.tokRev <;> exact h.loose
    | cons r ls =>
      have key : 1 ≤ (if (l.width == 1 && r.cp == NL) = true then l.line - 1 else l.line) ∧
          (if (l.width == 1 && r.cp == NL) = true then l.line - 1 else l.line) ≤ nLines inp := by
        rw [hl, nl_cons] at h1
        split
        · rename_i hc
          have : r.cp = NL := by simp at hc; exact hc.2
          simp [this] at h1; omega
        · omega
      cases l.tokRev <;> exact ⟨key.1, key.2, h.toks⟩

theorem fin_error {l : L} (h : Loose inp m l) (hm : m = .top ∨ m = .body) :
    Str (nLines inp) .top (l.error).1.toks.toList := by
  show Str _ .top (l.toks.push _).toList
  rw [Array.toList_push]
  apply h.toks
  exact Or.inl ⟨rfl, Or.inr ⟨hm, rfl, h.ln1, h.ln2⟩⟩

theorem St.skipWs (h : St inp m l) : St inp m (Spok.skipWs l) := by
  obtain ⟨_, r, e⟩ := skipWs_reads l
  rw [e]; exact (h.readsTo r).discard

theorem St.stripCR (h : St inp m l) : St inp m (Spok.stripCR l) :=
  (stripCR_rule h fun _ hc hm => hm.stepBack hc (by decide)).1

/-- the loop of `lexString`: a terminated string leaves a live state; the unterminated-string state
    (after a `backup` whose `width` may be the one left by the `peek` inside `atEOL`) still has its
    `line` within the input -/
theorem St.scanString (h : St inp m l) :
    (∀ l', Spok.scanString l = .ok l' → St inp m l') ∧ (∀ l', Spok.scanString l = .error l' → Loose inp m l') := by
  refine ⟨fun l' e => ?_, fun l' e => ?_⟩
  · obtain ⟨_, _, r⟩ := (scanString_reads l).1 l' e; exact h.readsTo r
  · obtain ⟨_, _, _, r, rfl⟩ := (scanString_reads l).2 l' e; exact (h.readsTo r).backup

theorem fin_eof {l : L} (h : St inp .top l) : Str (nLines inp) .top (l.emit .eof).toks.toList := by
  show Str _ .top (l.toks.push _).toList
  rw [Array.toList_push]
  apply h.toks
  exact Or.inl ⟨rfl, Or.inl ⟨rfl, rfl, h.sl1, h.sl2⟩⟩

theorem decodeAll_runesOK (bs : List UInt8) : RunesOK (decodeAll bs) :=
  fun _ hr hc => (runeGood_of_mem_decodeAll hr).w_eq_one (by omega)

end Spok
