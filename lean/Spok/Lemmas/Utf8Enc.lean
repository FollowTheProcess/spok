import Spok.Json.Quote
import Spok.Lemmas.Utf8
/-! # UTF-8: `utf8enc` (`utf8.EncodeRune`) and `decode1` (`utf8.DecodeRune`) are inverse to each other on valid runes

Re-encoding a validly decoded rune gives back its bytes (`utf8enc_decode1`: Go's decoder rejects over-long forms,
surrogates and values beyond U+10FFFF, so `utf8.EncodeRune(utf8.DecodeRune(p))` is `p[:size]`), and the decoder
accepts every encoded Unicode scalar value and gives back its code point (`decodeAll_utf8`): the lexer sees exactly
the code points the file was written with, and nothing is flagged invalid.  Both go through `Rune.Valid`. -/
namespace Spok.Json
open Spok

theorem utf8enc_one {cp : Nat} (h : cp < 0x80) : utf8enc cp = [UInt8.ofNat cp] := by simp [utf8enc, h]
theorem utf8enc_two {cp : Nat} (h1 : 0x80 ≤ cp) (h2 : cp < 0x800) :
    utf8enc cp = [UInt8.ofNat (0xC0 + cp / 64), UInt8.ofNat (0x80 + cp % 64)] := by
  simp [utf8enc, Nat.not_lt.mpr h1, h2]
theorem utf8enc_three {cp : Nat} (h1 : 0x800 ≤ cp) (h2 : cp < 0x10000) (h3 : ¬ (0xD800 ≤ cp ∧ cp < 0xE000)) :
    utf8enc cp = [UInt8.ofNat (0xE0 + cp / 4096), UInt8.ofNat (0x80 + cp / 64 % 64), UInt8.ofNat (0x80 + cp % 64)] := by
  unfold utf8enc
  rw [if_neg (by omega), if_neg (by omega), if_neg (by simp; omega), if_pos h2]
theorem utf8enc_four {cp : Nat} (h1 : 0x10000 ≤ cp) (h2 : cp ≤ 0x10FFFF) :
    utf8enc cp = [UInt8.ofNat (0xF0 + cp / 262144), UInt8.ofNat (0x80 + cp / 4096 % 64), UInt8.ofNat (0x80 + cp / 64 % 64),
      UInt8.ofNat (0x80 + cp % 64)] := by
  unfold utf8enc
  rw [if_neg (by omega), if_neg (by omega), if_neg (by simp; omega), if_neg (by omega)]

theorem ofNat_eq {b : UInt8} {n : Nat} (h : b.toNat = n) : UInt8.ofNat n = b := h ▸ UInt8.ofNat_toNat

theorem utf8enc_valid {r : Rune} (h : r.Valid) : utf8enc r.cp = r.bytes := by
  cases h with
  | one h => rw [utf8enc_one h, ofNat_eq rfl]; rfl
  | two h1 h2 h3 h4 =>
    obtain ⟨r1, r2, ea, eb⟩ := utf8_two.mp ⟨h1, h2, h3, h4, rfl⟩
    rw [utf8enc_two r1 r2, ofNat_eq ea, ofNat_eq eb]; rfl
  | three h1 h2 h3 h4 h5 h6 h7 h8 =>
    obtain ⟨r1, r2, r3, ea, eb, ec⟩ := utf8_three.mp ⟨h1, h2, h3, h4, h5, h6, h7, h8, rfl⟩
    rw [utf8enc_three r1 r2 r3, ofNat_eq ea, ofNat_eq eb, ofNat_eq ec]; rfl
  | four h1 h2 h3 h4 h5 h6 h7 h8 h9 h10 =>
    obtain ⟨r1, r2, ea, eb, ec, ed⟩ := utf8_four.mp ⟨h1, h2, h3, h4, h5, h6, h7, h8, h9, h10, rfl⟩
    rw [utf8enc_four r1 r2, ofNat_eq ea, ofNat_eq eb, ofNat_eq ec, ofNat_eq ed]; rfl

theorem toNat_ofNat_lt {n : Nat} (h : n < 256) : (UInt8.ofNat n).toNat = n := UInt8.toNat_ofNat_of_lt' h

/-- a Unicode scalar value: a code point that is not a surrogate -/
def isScalar (cp : Nat) : Prop := cp < 0xD800 ∨ (0xE000 ≤ cp ∧ cp ≤ 0x10FFFF)

theorem valid_utf8enc {cp : Nat} (h : isScalar cp) : ∃ r : Rune, r.Valid ∧ r.cp = cp ∧ r.bytes = utf8enc cp := by
  unfold isScalar at h
  by_cases c1 : cp < 0x80
  · have := Rune.Valid.one (b0 := UInt8.ofNat cp)
    rw [toNat_ofNat_lt (by omega)] at this
    exact ⟨_, this c1, rfl, (utf8enc_one c1).symm⟩
  by_cases c2 : cp < 0x800
  · obtain ⟨h1, h2, h3, h4, e⟩ := utf8_two.mpr ⟨Nat.le_of_not_lt c1, c2, rfl, rfl⟩
    have := Rune.Valid.two (b0 := UInt8.ofNat (0xC0 + cp / 64)) (b1 := UInt8.ofNat (0x80 + cp % 64))
    rw [toNat_ofNat_lt (by omega), toNat_ofNat_lt (by omega), ← e] at this
    exact ⟨_, this h1 h2 h3 h4, rfl, (utf8enc_two (Nat.le_of_not_lt c1) c2).symm⟩
  by_cases c3 : cp < 0x10000
  · have r3 : ¬ (0xD800 ≤ cp ∧ cp < 0xE000) := by omega
    obtain ⟨h1, h2, h3, h4, h5, h6, h7, h8, e⟩ := utf8_three.mpr ⟨Nat.le_of_not_lt c2, c3, r3, rfl, rfl, rfl⟩
    have := Rune.Valid.three (b0 := UInt8.ofNat (0xE0 + cp / 4096)) (b1 := UInt8.ofNat (0x80 + cp / 64 % 64))
      (b2 := UInt8.ofNat (0x80 + cp % 64))
    rw [toNat_ofNat_lt (by omega), toNat_ofNat_lt (by omega), toNat_ofNat_lt (by omega), ← e] at this
    exact ⟨_, this h1 h2 h3 h4 h5 h6 h7 h8, rfl, (utf8enc_three (Nat.le_of_not_lt c2) c3 r3).symm⟩
  · have c4 : cp ≤ 0x10FFFF := by omega
    obtain ⟨h1, h2, h3, h4, h5, h6, h7, h8, h9, h10, e⟩ := utf8_four.mpr ⟨Nat.le_of_not_lt c3, c4, rfl, rfl, rfl, rfl⟩
    have := Rune.Valid.four (b0 := UInt8.ofNat (0xF0 + cp / 262144)) (b1 := UInt8.ofNat (0x80 + cp / 4096 % 64))
      (b2 := UInt8.ofNat (0x80 + cp / 64 % 64)) (b3 := UInt8.ofNat (0x80 + cp % 64))
    rw [toNat_ofNat_lt (by omega), toNat_ofNat_lt (by omega), toNat_ofNat_lt (by omega), toNat_ofNat_lt (by omega), ← e] at this
    exact ⟨_, this h1 h2 h3 h4 h5 h6 h7 h8 h9 h10, rfl, (utf8enc_four (Nat.le_of_not_lt c3) c4).symm⟩

theorem valid_of_not_invalid {r : Rune} (h : r.invalid = false) : r.cp ≠ 0xFFFD ∨ r.more ≠ [] := by
  simp only [Rune.invalid, Bool.and_eq_false_iff, beq_eq_false_iff_ne, List.isEmpty_eq_false_iff] at h
  exact h

/-- `utf8.EncodeRune` undoes `utf8.DecodeRune` on everything but an invalid byte -/
theorem utf8enc_decode1 (b0 : UInt8) (rest : List UInt8) (h : (decode1 b0 rest).invalid = false) :
    utf8enc (decode1 b0 rest).cp = (decode1 b0 rest).bytes :=
  utf8enc_valid (decode1_valid (valid_of_not_invalid h))

def ascR (b : UInt8) : Rune := ⟨b.toNat, b, []⟩

theorem decodeAll_ascii (l : List UInt8) (h : ∀ b ∈ l, b.toNat < 128) (rest : List UInt8) :
    decodeAll (l ++ rest) = l.map ascR ++ decodeAll rest := by
  have hf : ∀ l : List UInt8, flat (l.map ascR) = l := fun l => by
    induction l with
    | nil => rfl
    | cons b l ih => rw [List.map_cons, flat_cons, ih]; rfl
  rw [← decodeAll_flat_append (ws := l.map ascR) _ rest, hf]
  intro r hr
  obtain ⟨b, hb, rfl⟩ := List.mem_map.mp hr
  exact (Rune.Valid.one (h b hb)).decode1_eq

theorem decodeAll_utf8enc_cons (cp : Nat) (h : isScalar cp) (rest : List UInt8) :
    ∃ r : Rune, decodeAll (utf8enc cp ++ rest) = r :: decodeAll rest ∧ r.cp = cp ∧ r.invalid = false := by
  obtain ⟨r, hv, hcp, hb⟩ := valid_utf8enc h
  refine ⟨r, hb ▸ hv.decodeAll_cons rest, hcp, ?_⟩
  cases hv <;> simp [Rune.invalid] <;> dsimp only at hcp <;> omega

/-- well-formed UTF-8 text decodes to the code points it was written with; no rune of it is flagged invalid -/
theorem decodeAll_utf8 : ∀ (cps : List Nat), (∀ cp ∈ cps, isScalar cp) →
    (decodeAll (cps.flatMap utf8enc)).map (·.cp) = cps ∧ ∀ r ∈ decodeAll (cps.flatMap utf8enc), r.invalid = false
  | [], _ => by simp [decodeAll]
  | cp :: cps, h => by
    obtain ⟨r, hd, hcp, hinv⟩ := decodeAll_utf8enc_cons cp (h cp (by simp)) (cps.flatMap utf8enc)
    obtain ⟨ih1, ih2⟩ := decodeAll_utf8 cps (fun x hx => h x (by simp [hx]))
    rw [List.flatMap_cons, hd]
    refine ⟨by simp [hcp, ih1], ?_⟩
    intro x hx
    simp only [List.mem_cons] at hx
    rcases hx with rfl | hx
    · exact hinv
    · exact ih2 x hx

end Spok.Json
