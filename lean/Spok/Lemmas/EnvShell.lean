import Spok.Judge.Env
/-! # The shell-subset commands look at the environment only through the names they mention -/
namespace Spok.Env
open Spok.Clean (Str)
open Spok.Judge.Env

def pieceNames : ShPiece → List Str
  | .evar n => [n]
  | .dq n => [n]
  | _ => []

theorem envNamesOf_words (ws : List (List ShPiece)) :
    envNamesOf (.words ws) = ws.flatMap (fun w => w.flatMap pieceNames) := by
  simp only [envNamesOf]
  congr 1
  funext w
  induction w with
  | nil => simp
  | cons p rest ih => cases p <;> simp [pieceNames, ih]

theorem eval_congr (tv : Vars) {e1 e2 : Str → Option Str} (p : ShPiece)
    (h : ∀ n ∈ pieceNames p, e1 n = e2 n) : p.eval tv e1 = p.eval tv e2 := by
  cases p with
  | bare t => rfl
  | tref n => rfl
  | evar n => simp [ShPiece.eval, h n (by simp [pieceNames])]
  | dq n => simp [ShPiece.eval, h n (by simp [pieceNames])]
  | sq items => rfl

theorem mapM_option_congr {α β} {f g : α → Option β} {l : List α} (h : ∀ a ∈ l, f a = g a) :
    l.mapM f = l.mapM g := by
  induction l with
  | nil => simp
  | cons a t ih => simp [List.mapM_cons, h a (by simp), ih (fun x hx => h x (by simp [hx]))]

theorem evalWord_congr (tv : Vars) {e1 e2 : Str → Option Str} (w : List ShPiece)
    (h : ∀ n ∈ w.flatMap pieceNames, e1 n = e2 n) : evalWord tv e1 w = evalWord tv e2 w := by
  unfold evalWord
  rw [mapM_option_congr (f := ShPiece.eval tv e1) (g := ShPiece.eval tv e2)]
  intro p hp
  exact eval_congr tv p (fun n hn => h n (List.mem_flatMap.2 ⟨p, hp, hn⟩))

theorem stdout_congr (tv : Vars) {e1 e2 : Str → Option Str} (c : Command)
    (h : ∀ n ∈ envNamesOf c, e1 n = e2 n) : c.stdout tv e1 = c.stdout tv e2 := by
  cases c with
  | raw src o => rfl
  | words ws =>
    rw [envNamesOf_words] at h
    simp only [Command.stdout]
    rw [mapM_option_congr (f := evalWord tv e1) (g := evalWord tv e2)]
    intro w hw
    exact evalWord_congr tv w (fun n hn => h n (List.mem_flatMap.2 ⟨w, hw, hn⟩))

end Spok.Env
