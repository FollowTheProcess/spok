import Spok.Lemmas.JsonScan
import Spok.Lemmas.Utf8Enc
/-! # Encoded string literals, piece by piece

`appendString` writes a string rune by rune.  `Piece w v` says of some written bytes `w` what the three readers of the
development make of them inside a string: the scanner stays in the string, `takeStr` passes over `w`, `unquoteBytes`
yields `v`.  Pieces are closed under concatenation; what is written for one rune is a piece (four atomic shapes), hence
so is a whole body (`piece_encBody`). -/
namespace Spok.Json
open Spok

theorem feed_St (stp : Step) (stk : List PS) (c : UInt8) : feed (St stp stk) c = stepFn (St stp stk) c.toNat := by
  simp [feed]

/-! ## the scanner inside a string -/

/-- ordinary string content for the scanner and for `takeStr` -/
def Plain (c : UInt8) : Prop := 32 ≤ c.toNat ∧ c.toNat ≠ 34 ∧ c.toNat ≠ 92

theorem inStr_plain {stk : List PS} {c : UInt8} (h : Plain c) : feed (St .inString stk) c = St .inString stk := by
  obtain ⟨h1, h2, h3⟩ := h
  rw [feed_St]; unfold stepFn; simp [h2, h3]; omega

theorem inStr_quote {stk : List PS} : feed (St .inString stk) 34 = St .endValue stk := by
  rw [feed_St]; unfold stepFn; simp

theorem seg_plain {stk : List PS} (hs : stk ≠ []) : ∀ (l : Bytes), (∀ b ∈ l, Plain b) →
    Seg (St .inString stk) l (St .inString stk)
  | [], _ => Seg.nil _
  | c :: l, h => Seg.cons (NA_St hs) (by
      rw [inStr_plain (h c (by simp))]; exact seg_plain hs l fun b hb => h b (by simp [hb]))

/-! ## `takeStr` -/

def pre (l : Bytes) (x : Bytes × Bytes) : Bytes × Bytes := (l ++ x.1, x.2)

theorem map_pre_nil (o : Option (Bytes × Bytes)) : o.map (pre []) = o := by cases o <;> rfl

theorem map_pre_pre (w W : Bytes) (o : Option (Bytes × Bytes)) : (o.map (pre W)).map (pre w) = o.map (pre (w ++ W)) := by
  cases o <;> simp [pre]

theorem takeStr_cons (c : UInt8) (rest : Bytes) : takeStr (c :: rest) =
    if c.toNat == 34 then some ([], rest)
    else if c.toNat == 92 then
      match rest with
      | [] => none
      | e :: rest' => (takeStr rest').map fun (b, r) => (c :: e :: b, r)
    else (takeStr rest).map fun (b, r) => (c :: b, r) := by
  conv => lhs; unfold takeStr
  rfl

theorem takeStr_esc (e : UInt8) (rest : Bytes) : takeStr (92 :: e :: rest) = (takeStr rest).map (pre [92, e]) := by
  rw [takeStr_cons]
  simp only [show ((92 : UInt8).toNat == 34) = false by decide, show ((92 : UInt8).toNat == 92) = true by decide]
  cases takeStr rest <;> simp [pre]

theorem takeStr_plain : ∀ (l : Bytes), (∀ b ∈ l, Plain b) → ∀ rest, takeStr (l ++ rest) = (takeStr rest).map (pre l)
  | [], _, rest => (map_pre_nil _).symm
  | b :: l, h, rest => by
    obtain ⟨_, h2, h3⟩ := h b (by simp)
    rw [List.cons_append, takeStr_cons, takeStr_plain l (fun x hx => h x (by simp [hx]))]
    simp only [beq_iff_eq, h2, h3, if_false]
    cases takeStr rest <;> simp [pre]

/-! ## `unquoteBytes` -/

theorem cons?_some (h t : Bytes) : cons? h (some t) = some (h ++ t) := rfl

theorem cons?_nil (o : Option Bytes) : cons? [] o = o := by cases o <;> rfl

theorem cons?_cons? (w W : Bytes) (o : Option Bytes) : cons? w (cons? W o) = cons? (w ++ W) o := by
  cases o <;> simp [cons?]

/-- `\"  \\  \b  \f  \n  \r  \t`: the escape letter and the byte it stands for -/
def named : List (UInt8 × UInt8) := [(34, 34), (92, 92), (98, 8), (102, 12), (110, 10), (114, 13), (116, 9)]

theorem named_spec : ∀ p ∈ named, p.1.toNat < 128 ∧
    (p.1.toNat == 98 || p.1.toNat == 102 || p.1.toNat == 110 || p.1.toNat == 114 || p.1.toNat == 116 || p.1.toNat == 92 ||
      p.1.toNat == 47 || p.1.toNat == 34) = true := by decide

theorem unq_nil : unqRunes [] = some [] := by rw [unqRunes.eq_def]

theorem unq_plain (b : UInt8) (h1 : Plain b) (h2 : b.toNat < 128) (rest : List Rune) :
    unqRunes (ascR b :: rest) = cons? [b] (unqRunes rest) := by
  obtain ⟨h1, h3, h4⟩ := h1
  rw [unqRunes.eq_def]
  have h5 : ¬ b.toNat < 32 := by omega
  simp [ascR, h2, h3, h4, h5]

theorem unq_high (r : Rune) (h : 128 ≤ r.b0.toNat) (rest : List Rune) :
    unqRunes (r :: rest) = cons? (utf8enc r.cp) (unqRunes rest) := by
  rw [unqRunes.eq_def]
  have h1 : r.b0.toNat ≠ 92 := by omega
  have h2 : r.b0.toNat ≠ 34 := by omega
  have h3 : ¬ r.b0.toNat < 32 := by omega
  have h4 : ¬ r.b0.toNat < 128 := by omega
  simp [h1, h2, h3, h4]

theorem unq_esc1 {e v : UInt8} (h : (e, v) ∈ named) (rest : List Rune) :
    unqRunes (ascR 92 :: ascR e :: rest) = cons? [v] (unqRunes rest) := by
  rw [unqRunes.eq_def]
  simp only [named, List.mem_cons, Prod.mk.injEq, List.not_mem_nil, or_false] at h
  rcases h with ⟨rfl, rfl⟩ | ⟨rfl, rfl⟩ | ⟨rfl, rfl⟩ | ⟨rfl, rfl⟩ | ⟨rfl, rfl⟩ | ⟨rfl, rfl⟩ | ⟨rfl, rfl⟩ <;> simp [ascR]

theorem unq_u4 (a b c d : UInt8) (rr : Nat) (hv : getu4 a b c d = some rr) (hs : isSurrogate rr = false) (rest : List Rune) :
    unqRunes (ascR 92 :: ascR 117 :: ascR a :: ascR b :: ascR c :: ascR d :: rest) = cons? (utf8enc rr) (unqRunes rest) := by
  rw [unqRunes.eq_def]
  simp [ascR, hv, hs]

structure Piece (w v : Bytes) : Prop where
  seg : ∀ {stk : List PS}, stk ≠ [] → Seg (St .inString stk) w (St .inString stk)
  take : ∀ rest, takeStr (w ++ rest) = (takeStr rest).map (pre w)
  unq : ∀ tail, unqRunes (decodeAll (w ++ tail)) = cons? v (unqRunes (decodeAll tail))

theorem Piece.nil : Piece [] [] := ⟨fun _ => Seg.nil _, fun _ => (map_pre_nil _).symm, fun _ => (cons?_nil _).symm⟩

theorem Piece.append {w v W V : Bytes} (h : Piece w v) (H : Piece W V) : Piece (w ++ W) (v ++ V) :=
  ⟨fun hs => (h.seg hs).append (H.seg hs),
   fun rest => by rw [List.append_assoc, h.take, H.take, map_pre_pre],
   fun tail => by rw [List.append_assoc, h.unq, H.unq, cons?_cons?]⟩

theorem Piece.flatMap {α : Type} {f g : α → Bytes} : ∀ (l : List α), (∀ x ∈ l, Piece (f x) (g x)) → Piece (l.flatMap f) (l.flatMap g)
  | [], _ => .nil
  | x :: l, h => (h x (by simp)).append (Piece.flatMap l fun y hy => h y (by simp [hy]))

theorem piece_plain {b : UInt8} (h : Plain b) (hb : b.toNat < 128) : Piece [b] [b] := by
  have hp : ∀ x ∈ [b], Plain x := by simpa using h
  refine ⟨fun hs => seg_plain hs _ hp, takeStr_plain _ hp, fun tail => ?_⟩
  rw [decodeAll_ascii [b] (by simpa using hb)]
  exact unq_plain b h hb _

/-- a well-formed rune of several bytes, which `appendString` copies -/
theorem piece_rune {r : Rune} (hv : r.Valid) (hb : ∀ b ∈ r.bytes, 128 ≤ b.toNat) : Piece r.bytes r.bytes := by
  have hp : ∀ x ∈ r.bytes, Plain x := fun x hx => by have := hb x hx; refine ⟨?_, ?_, ?_⟩ <;> omega
  refine ⟨fun hs => seg_plain hs _ hp, takeStr_plain _ hp, fun tail => ?_⟩
  rw [hv.decodeAll_cons, ← utf8enc_valid hv]
  exact unq_high r (hb _ (by simp [Rune.bytes])) _

theorem piece_esc1 {e v : UInt8} (h : (e, v) ∈ named) : Piece [92, e] [v] := by
  obtain ⟨hlt, hesc⟩ := named_spec _ h
  refine ⟨fun hs => ?_, takeStr_esc e, fun tail => ?_⟩
  · simp [seg_St_cons hs, stepFn, hesc, Seg.nil]
  · rw [decodeAll_ascii [92, e] (by simp [hlt])]
    exact unq_esc1 h _

theorem hexVal_some {c : UInt8} {x : Nat} (h : hexVal c = some x) : isHex c.toNat = true ∧ Plain c ∧ c.toNat < 128 := by
  simp only [hexVal, isHex, Plain] at h ⊢
  generalize c.toNat = n at h ⊢
  by_cases h1 : 48 ≤ n ∧ n ≤ 57
  · simp [h1]; omega
  by_cases h2 : 97 ≤ n ∧ n ≤ 102
  · simp [h2]; omega
  by_cases h3 : 65 ≤ n ∧ n ≤ 70
  · simp [h3]; omega
  · simp [h1, h2, h3] at h

theorem piece_u4 {a b c d : UInt8} {n : Nat} (hn : getu4 a b c d = some n) (hsur : isSurrogate n = false) :
    Piece [92, 117, a, b, c, d] (utf8enc n) := by
  have hn' := hn
  simp only [getu4, Option.bind_eq_bind, Option.bind_eq_some_iff] at hn'
  obtain ⟨_, ha, _, hb, _, hc, _, hd, _⟩ := hn'
  obtain ⟨xa, pa, la⟩ := hexVal_some ha
  obtain ⟨xb, pb, lb⟩ := hexVal_some hb
  obtain ⟨xc, pc, lc⟩ := hexVal_some hc
  obtain ⟨xd, pd, ld⟩ := hexVal_some hd
  refine ⟨fun hs => ?_, fun rest => ?_, fun tail => ?_⟩
  · simp [seg_St_cons hs, stepFn, hexStep, xa, xb, xc, xd, Seg.nil]
  · show takeStr (92 :: 117 :: ([a, b, c, d] ++ rest)) = _
    rw [takeStr_esc, takeStr_plain [a, b, c, d] (by simp [pa, pb, pc, pd]), map_pre_pre]; rfl
  · rw [decodeAll_ascii [92, 117, a, b, c, d] (by simp [la, lb, lc, ld])]
    exact unq_u4 a b c d n hn hsur _

/-! ## what `appendString` writes -/

/-- `appendString` on the 128 ASCII bytes (Go's `htmlSafeSet` table and the switch above it), by shape -/
theorem escAscii_table : ∀ n < 128,
    (escAscii (UInt8.ofNat n) = [UInt8.ofNat n] ∧ 32 ≤ n ∧ n ≠ 34 ∧ n ≠ 92) ∨
    (∃ p ∈ named, p.2 = UInt8.ofNat n ∧ escAscii (UInt8.ofNat n) = [92, p.1]) ∨
    (escAscii (UInt8.ofNat n) = [92, 117, 48, 48, hexd (n / 16), hexd (n % 16)] ∧
      getu4 48 48 (hexd (n / 16)) (hexd (n % 16)) = some n) := by decide +kernel

theorem piece_escAscii (b : UInt8) (hb : b.toNat < 128) : Piece (escAscii b) [b] := by
  have := escAscii_table b.toNat hb
  rw [UInt8.ofNat_toNat] at this
  rcases this with ⟨h, h1, h2, h3⟩ | ⟨p, hp, rfl, h⟩ | ⟨h, hg⟩ <;> rw [h]
  · exact piece_plain ⟨h1, h2, h3⟩ hb
  · exact piece_esc1 hp
  · have := piece_u4 hg (by simp [isSurrogate]; omega)
    rwa [show utf8enc b.toNat = [b] by unfold utf8enc; simp [hb]] at this

theorem piece_encRune {bs : Bytes} {r : Rune} (hr : r ∈ decodeAll bs) : Piece (encRune r) (if r.invalid then [0xEF, 0xBF, 0xBD] else r.bytes) := by
  unfold encRune
  rcases mem_decodeAll_cases hr with ⟨h, hra⟩ | ⟨_, hb⟩
  · have hinv : r.invalid = false := by
      have : r.cp = r.b0.toNat := congrArg Rune.cp hra
      simp [Rune.invalid, this]; omega
    rw [if_pos h, hinv, show r.bytes = [r.b0] from congrArg Rune.bytes hra]
    exact piece_escAscii r.b0 h
  · rw [if_neg (by have := hb r.b0 (by simp [Rune.bytes]); omega)]
    cases hinv : r.invalid
    · have hv := valid_of_mem_decodeAll hr (valid_of_not_invalid hinv)
      simp only [Bool.false_eq_true, if_false]
      split
      · rename_i hcp
        rw [← utf8enc_valid hv, beq_iff_eq.mp hcp]
        exact piece_u4 (a := 50) (b := 48) (c := 50) (d := 56) (by decide) (by decide)
      · split
        · rename_i hcp
          rw [← utf8enc_valid hv, beq_iff_eq.mp hcp]
          exact piece_u4 (a := 50) (b := 48) (c := 50) (d := 57) (by decide) (by decide)
        · exact piece_rune hv hb
    · exact piece_u4 (a := 102) (b := 102) (c := 102) (d := 100) (n := 0xFFFD) (by decide) (by decide)

theorem piece_encBody (s : Bytes) : Piece (encBody s) (sanitize s) :=
  Piece.flatMap _ fun _ hr => piece_encRune hr

theorem takeStr_encBody (s rest : Bytes) : takeStr (encBody s ++ 34 :: rest) = some (encBody s, rest) := by
  rw [(piece_encBody s).take, takeStr_cons]; simp [pre]

/-- `unquote(appendString(s)) = s` with invalid bytes replaced by U+FFFD -/
theorem unqBody_encBody (s : Bytes) : unqBody (encBody s) = some (sanitize s) := by
  have := (piece_encBody s).unq []
  rw [List.append_nil, show decodeAll [] = [] by rw [decodeAll], unq_nil] at this
  rw [unqBody, this]; simp [cons?]

theorem sanitize_valid (s : Bytes) (h : ∀ r ∈ decodeAll s, r.invalid = false) : sanitize s = s := by
  have : ∀ r ∈ decodeAll s, (if r.invalid then [0xEF, 0xBF, 0xBD] else r.bytes) = r.bytes := fun r hr => by rw [h r hr]; rfl
  rw [sanitize, List.flatMap_def, List.map_congr_left this, ← List.flatMap_def]
  exact flat_decodeAll s

end Spok.Json
