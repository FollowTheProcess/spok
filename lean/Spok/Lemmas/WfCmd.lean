import Spok.Syntax.Render
/-! # The command-text scan in its real context

`cmdScanOK c` (`Render.lean`) describes the scan of a command text `c` when a newline follows it.
The lexer scans `c` in another context: followed by `CR* LF`, or by `CR*`, at most one blank and the
closing brace, all of which it strips again.  `Scan f s` is the scan of `s` *followed by `f`*: every
rune of `s` is taken as command text, and no `{{` / `}}` jump leaves `s`.  Such a scan makes the same
decisions whatever follows `s` (`Scan.ok`), and what is stripped can be moved into the follower
(`Scan.strip`). -/
namespace Spok.PW
open Spok

/-- the `{{` / `}}` look-ahead -/
def brace2 (xs : List Rune) : Bool :=
  (xs.take 2).map (·.cp) == [LBRACE, LBRACE] || (xs.take 2).map (·.cp) == [RBRACE, RBRACE]

theorem hasPrefix_brace2 {l : L} {r : Rune} {rs : List Rune} (h : l.right = r :: rs) :
    ((l.next).1.hasPrefix [LBRACE, LBRACE] || (l.next).1.hasPrefix [RBRACE, RBRACE]) = brace2 rs := by
  simp [L.hasPrefix, L.next, h, brace2]

inductive Scan (f : List Rune) : List Rune → Prop
  | nil : Scan f []
  | jump {r : Rune} {rest : List Rune} : r.cp ≠ NL → brace2 (rest ++ f) = true → 2 ≤ rest.length →
      Scan f (rest.drop 2) → Scan f (r :: rest)
  | plain {r : Rune} {rest : List Rune} : r.cp ≠ NL → brace2 (rest ++ f) = false → r.cp ≠ RBRACE → r.cp ≠ HASH →
      isASCII r = true → Scan f rest → Scan f (r :: rest)

theorem brace2_append_of_le {xs : List Rune} (f : List Rune) (h : 2 ≤ xs.length) : brace2 (xs ++ f) = brace2 xs := by
  unfold brace2
  rw [List.take_append_of_le_length h]

theorem brace2_short {xs : List Rune} (h : xs.length < 2) : brace2 xs = false := by
  match xs, h with
  | [], _ => rfl
  | [x], _ => simp [brace2]

theorem brace2_heads {xs : List Rune} (h : brace2 xs = true) :
    ∃ a b rest, xs = a :: b :: rest ∧ (a.cp = LBRACE ∨ a.cp = RBRACE) ∧ (b.cp = LBRACE ∨ b.cp = RBRACE) := by
  match xs with
  | [] => simp [brace2] at h
  | [x] => simp [brace2] at h
  | a :: b :: rest =>
    refine ⟨a, b, rest, rfl, ?_⟩
    simp only [brace2, List.take_succ_cons, List.take_zero, List.map_cons, List.map_nil, Bool.or_eq_true, beq_iff_eq,
      List.cons.injEq, and_true] at h
    rcases h with h | h
    · exact ⟨Or.inl h.1, Or.inl h.2⟩
    · exact ⟨Or.inr h.1, Or.inr h.2⟩

theorem cmdScanOK_cons (r : Rune) (rest : List Rune) :
    cmdScanOK (r :: rest) =
      (if r.cp == NL then false
       else if brace2 rest then cmdScanOK (rest.drop 2)
       else if r.cp == RBRACE || r.cp == HASH then false
       else if isASCII r then cmdScanOK rest
       else false) := by
  rw [cmdScanOK]; rfl

theorem Scan.ok {f s : List Rune} (h : Scan f s) : cmdScanOK s = true := by
  induction h with
  | nil => rw [cmdScanOK]
  | jump h1 h2 h3 _ ih =>
    rw [brace2_append_of_le f h3] at h2
    simp [cmdScanOK_cons, h1, h2, ih]
  | @plain r rest h1 h2 h3 h4 h5 _ ih =>
    -- a window that reaches beyond `rest` is too short without `f`
    have : brace2 rest = false := by
      by_cases hl : 2 ≤ rest.length
      · rw [← brace2_append_of_le f hl]; exact h2
      · exact brace2_short (by omega)
    simp [cmdScanOK_cons, h1, this, h3, h4, h5, ih]

theorem Scan.append {R z s : List Rune} (h : Scan (z ++ R) s) (hz : Scan R z) : Scan R (s ++ z) := by
  induction h with
  | nil => exact hz
  | @jump r rest h1 h2 h3 _ ih =>
    rw [List.cons_append]
    refine .jump h1 (by rwa [List.append_assoc]) (by simp; omega) ?_
    rwa [List.drop_append_of_le_length h3]
  | plain h1 h2 h3 h4 h5 _ ih =>
    rw [List.cons_append]
    exact .plain h1 (by rwa [List.append_assoc]) h3 h4 h5 ih

theorem Scan.single {R : List Rune} {r : Rune} (h1 : r.cp ≠ NL) (h2 : brace2 R = false) (h3 : r.cp ≠ RBRACE)
    (h4 : r.cp ≠ HASH) (h5 : isASCII r = true) : Scan R [r] := .plain h1 h2 h3 h4 h5 .nil

theorem Scan.triple {R : List Rune} {r b1 b2 : Rune} (h1 : r.cp ≠ NL) (h2 : brace2 (b1 :: b2 :: R) = true) :
    Scan R [r, b1, b2] := .jump h1 h2 (by simp) .nil

/-- what the lexer consumed but strips again (`z`: a blank, CRs) becomes part of the follower -/
theorem Scan.strip {f z w : List Rune} (hz : ∀ x, z.head? = some x → x.cp ≠ LBRACE ∧ x.cp ≠ RBRACE) (h : Scan f w) :
    ∀ s, w = s ++ z → Scan (z ++ f) s := by
  induction h with
  | nil => intro s hs; rw [(List.append_eq_nil_iff.mp hs.symm).1]; exact .nil
  | @jump r w h1 h2 h3 _ ih =>
    rintro (_ | ⟨r', rest⟩) hs
    · exact .nil
    obtain ⟨rfl, rfl⟩ := List.cons.inj (List.cons_append ▸ hs)
    rw [List.append_assoc] at h2
    -- the window that matched does not contain the first rune of `z`, which is not a brace
    have h3' : 2 ≤ rest.length := by
      obtain ⟨a, b, tl, hx, ha, hb⟩ := brace2_heads h2
      match rest, hx with
      | [], hx =>
        cases z with
        | nil => simp at h3
        | cons z0 zs => injection hx with hx; subst hx; have := hz z0 rfl; omega
      | [y], hx =>
        cases z with
        | nil => simp at h3
        | cons z0 zs => injection hx with _ hx; injection hx with hx; subst hx; have := hz z0 rfl; omega
      | _ :: _ :: _, _ => simp
    exact .jump h1 h2 h3' (ih _ (List.drop_append_of_le_length h3'))
  | @plain r w h1 h2 h3 h4 h5 _ ih =>
    rintro (_ | ⟨r', rest⟩) hs
    · exact .nil
    obtain ⟨rfl, rfl⟩ := List.cons.inj (List.cons_append ▸ hs)
    exact .plain h1 (by rwa [List.append_assoc] at h2) h3 h4 h5 (ih _ rfl)

theorem cmdScanOK_of_scan {f s z : List Rune} (h : Scan f (s ++ z)) (hz : ∀ x ∈ z, x.cp = CR ∨ x.cp = SP) :
    cmdScanOK s = true := by
  refine (h.strip (fun x hx => ?_) s rfl).ok
  rcases hz x (List.mem_of_mem_head? hx) with h | h <;> omega

end Spok.PW
