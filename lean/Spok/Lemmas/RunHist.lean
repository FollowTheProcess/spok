import Spok.Lemmas.RunTrace
/-! # Lifting the micro-step invariants over invocations and over the history fold
    (helper lemmas for Props/C01 C02 C10 C14) -/
namespace Spok.Run
open Spok.Judge.Run

variable (digest : Items → Digest)

/-- world invariant (all histories): what is on disk is justified by the ghost, missing, or unparsable -/
def WInv (w : World) : Prop := InvDisk digest w.last w.disk
/-- world invariant (between kills): what is on disk records every last success on ≥ 1 file -/
def CW (w : World) : Prop := CDisk digest w.last w.disk

/-- the judges' ghost follows the world -/
def Sync (g : Ghost) (w : World) : Prop := g.last = w.last ∧ g.inp = w.inp ∧ g.disk = w.disk.cls

theorem sync_init : Sync Ghost.init World.init := ⟨rfl, rfl, rfl⟩
theorem winv_init : WInv digest World.init := fun _ => rfl
theorem cw_init : CW digest World.init := fun _ => rfl

/-! ## the start of an invocation -/

theorem mkTask_name (inp : Name → Option Inputs) (fails : Name → Bool) (t : Name) : (mkTask inp fails t).name = t := by
  unfold mkTask; split <;> rfl

theorem mkTask_readable {inp : Name → Option Inputs} {fails : Name → Bool} {t : Name}
    (h : (mkTask inp fails t).readable = true) : inp t = some (mkTask inp fails t).inp := by
  cases hi : inp t with
  | some i => simp [mkTask, hi]
  | none => simp [mkTask, hi] at h

theorem mkTask_unreadable {inp : Name → Option Inputs} {fails : Name → Bool} {t : Name}
    (h : (mkTask inp fails t).readable = false) : inp t = none ∧ (mkTask inp fails t).inp.items = [] := by
  cases hi : inp t with
  | some i => simp [mkTask, hi] at h
  | none => simp [mkTask, hi]

theorem todo_names (w : World) (force : Bool) (order : List Name) (fails : Name → Bool) :
    (initSt w force order fails).todo.map (·.name) = order := by
  simp [initSt, Function.comp_def, mkTask_name]

theorem inv_init (w : World) (force : Bool) (order : List Name) (fails : Name → Bool) (h : WInv digest w) :
    Inv digest (initSt w force order fails) :=
  ⟨fun _ => just_none digest _ _, h⟩

theorem cinv_init (w : World) (force : Bool) (order : List Name) (fails : Name → Bool) (h : CW digest w) :
    CInv digest (initSt w force order fails) := h

theorem tinv_init (w : World) (force : Bool) (order : List Name) (fails : Name → Bool) :
    TInv w.inp w.last w.disk (initSt w force order fails) := by
  refine ⟨rfl, fun t ht hr => ?_, rfl⟩
  obtain ⟨n, _, rfl⟩ := List.mem_map.mp ht
  rw [mkTask_name]; exact mkTask_readable hr

theorem finv_init (w : World) (force : Bool) (order : List Name) (fails : Name → Bool) :
    FInv order (initSt w force order fails) := by
  intro _
  refine ⟨fun e he => by simp [initSt] at he, fun n hn => .inl ?_⟩
  rw [todo_names]; exact hn

theorem iter_force (k : Nat) (s : St) : (iter digest k s).force = s.force := by
  induction k generalizing s with
  | zero => rfl
  | succ k ih => simp only [iter, ih, step_force]

/-! ## how a final state is observed -/

theorem outcomeOf_done {c : Option Nat} {s : St} : outcomeOf c s = .done ↔ s.pc = .finished := by
  unfold outcomeOf; cases s.pc <;> cases c <;> simp

theorem outcomeOf_cacheError {c : Option Nat} {s : St} : outcomeOf c s = .cacheError ↔ s.pc = .cacheError := by
  unfold outcomeOf; cases s.pc <;> cases c <;> simp

theorem outcome_not_bad (c : Option Nat) (s : St) : outcomeOf c s ≠ .bad ∧ outcomeOf c s ≠ .panic := by
  unfold outcomeOf; cases s.pc <;> cases c <;> simp

theorem outcomeOf_stuck {c : Option Nat} {s : St} : outcomeOf c s = .stuck ↔ c = none ∧ s.pc.terminal = false := by
  unfold outcomeOf; cases s.pc <;> cases c <;> simp [Pc.terminal]

theorem isCrash_invoke {f : Bool} {sel : List Name} {tr : List (Name × Out)} {c : Option Nat} {s : St} {d : DiskClass} :
    isCrash (.invoke f sel tr (outcomeOf c s) d) = false ↔ s.pc.terminal = true := by
  unfold isCrash outcomeOf; cases s.pc <;> cases c <;> simp [Pc.terminal]

/-! ## one invocation -/

section invocation
variable (w : World) (force : Bool) (order : List Name) (fails : Name → Bool) (crashAt : Option Nat)

theorem runInv_tinv : TInv w.inp w.last w.disk (runInv digest w force order fails crashAt) :=
  iter_preserves digest _ (step_tinv digest w.inp w.last w.disk) _ _ (tinv_init w force order fails)

theorem runInv_finv : FInv order (runInv digest w force order fails crashAt) :=
  iter_preserves₂ digest _ _ (step_tinv digest w.inp w.last w.disk) (step_finv digest _ _ _ order) _ _
    (tinv_init w force order fails) (finv_init w force order fails)

theorem runInv_c01 (hnc : ¬ Collision digest) (h : WInv digest w) :
    checkTrace (c01Entry w.inp) w.inp w.last (runInv digest w force order fails crashAt).out = true :=
  iter_preserves₂ digest (fun s => Inv digest s ∧ TInv w.inp w.last w.disk s) _
    (fun s h => ⟨step_inv digest s h.1, step_tinv digest _ _ _ s h.2⟩) (fun s h => step_c01 digest _ _ _ hnc s h.1 h.2)
    _ _ ⟨inv_init digest w force order fails h, tinv_init w force order fails⟩ rfl

theorem runInv_c02 (h : CW digest w) :
    checkTrace (c02Entry force w.inp) w.inp w.last (runInv digest w force order fails crashAt).out = true := by
  have := iter_preserves₂ digest (fun s => CInv digest s ∧ TInv w.inp w.last w.disk s)
    (fun s => checkTrace (c02Entry s.force w.inp) w.inp w.last s.out = true)
    (fun s h => ⟨step_cinv digest s h.1, step_tinv digest _ _ _ s h.2⟩)
    (fun s h hk => by rw [step_force]; exact step_c02 digest _ _ _ s h.1 h.2 hk)
    (crashAt.getD (fuel order.length)) _ ⟨cinv_init digest w force order fails h, tinv_init w force order fails⟩ rfl
  rwa [iter_force] at this

theorem runInv_forced (hdone : (runInv digest w true order fails crashAt).pc = .finished) :
    (∀ e ∈ (runInv digest w true order fails crashAt).out, isRun e = true) ∧
    ∀ n ∈ order, ∃ e ∈ (runInv digest w true order fails crashAt).out, e.1 = n ∧ isRun e = true := by
  have hF := runInv_finv digest w true order fails crashAt (by rw [runInv, iter_force]; rfl)
  have hT := (runInv_tinv digest w true order fails crashAt).2.2
  simp only [TPc, hdone] at hT
  exact ⟨hF.1, fun n hn => (hF.2 n hn).resolve_left (by simp [hT])⟩

theorem runInv_terminal : (runInv digest w force order fails none).pc.terminal = true := by
  apply iter_terminal
  simp [measure, initSt, rank, fuel]

theorem runInv_ghost :
    ghostTrace w.inp w.last (traceOf (runInv digest w force order fails crashAt)) =
      (runInv digest w force order fails crashAt).last := by
  have h := (runInv_tinv digest w force order fails crashAt).1
  unfold traceOf
  split
  · exact h.symm
  · rw [ghostTrace_filter]; exact h.symm

/-- a damaged cache: the next invocation stops at once with the explicit cache error, having executed nothing -/
theorem runInv_corrupt (hd : w.disk = .corrupt) :
    runInv digest w force order fails crashAt =
      { initSt w force order fails with pc := if crashAt = some 0 then .boot else .cacheError } := by
  have h1 : ∀ k, iter digest (k + 1) (initSt w force order fails) = { initSt w force order fails with pc := .cacheError } := by
    intro k
    rw [iter, show step digest (initSt w force order fails) = { initSt w force order fails with pc := .cacheError } by
      simp [step, initSt, hd], iter_fixed digest k _ rfl]
  rcases crashAt with _ | _ | k
  · exact (h1 _).trans (by simp)
  · rfl
  · exact (h1 k).trans (by simp)

theorem cacheError_only_corrupt (h : (runInv digest w force order fails crashAt).pc = .cacheError) : w.disk = .corrupt := by
  have := (runInv_tinv digest w force order fails crashAt).2.2
  simpa only [TPc, h] using this

theorem hashError_only_unreadable (h : (runInv digest w force order fails crashAt).pc = .hashError) :
    ∃ t ∈ order, w.inp t = none := by
  have hp := (runInv_tinv digest w force order fails crashAt).2.2
  cases hto : (runInv digest w force order fails crashAt).todo with
  | nil => simp [TPc, h, hto] at hp
  | cons t rest =>
    simp only [TPc, h, hto] at hp
    have ht : t ∈ (initSt w force order fails).todo := iter_todo_mem digest _ _ (by rw [← runInv, hto]; simp)
    obtain ⟨n, hn, rfl⟩ := List.mem_map.mp ht
    exact ⟨n, hn, (mkTask_unreadable hp).1⟩

end invocation

/-! ## one event: what it does to the world invariants, and that each judge's test of it passes -/

theorem winv_event (w : World) (e : Event) (h : WInv digest w) : WInv digest (runEvent digest w e).1 := by
  cases e with
  | edit f => exact h
  | removeCache => exact fun _ => rfl
  | invoke force order fails crashAt =>
    exact inv_disk digest _ (iter_preserves digest _ (step_inv digest) _ _ (inv_init digest w force order fails h))

/-- termination: an invocation that is not killed is not observed as a crash -/
theorem nocrash_event (w : World) (e : Event) (h : e.crashFree = true) : isCrash (runEvent digest w e).2 = false := by
  cases e with
  | edit f => rfl
  | removeCache => rfl
  | invoke force order fails crashAt =>
    cases crashAt with
    | some k => cases h
    | none => exact isCrash_invoke.mpr (runInv_terminal digest w force order fails)

theorem cw_event (w : World) (e : Event) (h : CW digest w) (hnc : isCrash (runEvent digest w e).2 = false) :
    CW digest (runEvent digest w e).1 := by
  cases e with
  | edit f => exact h
  | removeCache => exact fun _ => rfl
  | invoke force order fails crashAt =>
    exact cinv_disk digest _ (iter_preserves digest _ (step_cinv digest) _ _ (cinv_init digest w force order fails h))
      (isCrash_invoke.mp hnc)

theorem sync_event (g : Ghost) (w : World) (e : Event) (h : Sync g w) :
    Sync (advance g (runEvent digest w e).2) (runEvent digest w e).1 := by
  obtain ⟨h1, h2, h3⟩ := h
  cases e with
  | edit f => exact ⟨h1, rfl, h3⟩
  | removeCache => exact ⟨rfl, h2, rfl⟩
  | invoke force order fails crashAt =>
    refine ⟨?_, h2, rfl⟩
    simp only [runEvent, advance]
    rw [h1, h2]
    exact runInv_ghost digest w force order fails crashAt

theorem c01_event (hnc : ¬ Collision digest) (w : World) (g : Ghost) (e : Event) (hw : WInv digest w) (hs : Sync g w) :
    c01Ev g (runEvent digest w e).2 = true := by
  cases e with
  | edit f => rfl
  | removeCache => rfl
  | invoke force order fails crashAt =>
    simp only [runEvent, c01Ev, Bool.and_eq_true, bne_iff_ne, ne_eq]
    refine ⟨(outcome_not_bad crashAt _).1, ?_⟩
    rw [hs.1, hs.2.1]
    unfold traceOf
    split
    · exact runInv_c01 digest w force order fails crashAt hnc hw
    · exact checkTrace_c01_filter _ _ _

theorem c14_event (w : World) (g : Ghost) (e : Event) : c14Ev g (runEvent digest w e).2 = true := by
  cases e with
  | edit f => rfl
  | removeCache => rfl
  | invoke force order fails crashAt =>
    simp only [runEvent, c14Ev, Bool.and_eq_true, bne_iff_ne, ne_eq]
    refine ⟨(outcome_not_bad crashAt _).1, ?_⟩
    cases hf : force with
    | false => simp
    | true =>
      cases hfin : (outcomeOf crashAt (runInv digest w true order fails crashAt) == Outcome.done) with
      | false => simp
      | true =>
        have hpc := outcomeOf_done.mp (beq_iff_eq.mp hfin)
        simpa only [traceOf, hpc, Bool.and_self, Bool.not_true, Bool.false_or, Bool.and_eq_true, List.all_eq_true,
          List.any_eq_true, beq_iff_eq] using runInv_forced digest w order fails crashAt hpc

theorem c02_event (w : World) (g : Ghost) (e : Event) (hw : CW digest w) (hs : Sync g w) :
    c02Ev g (runEvent digest w e).2 = true := by
  cases e with
  | edit f => rfl
  | removeCache => rfl
  | invoke force order fails crashAt =>
    simp only [runEvent, c02Ev, Bool.and_eq_true, bne_iff_ne, ne_eq, Bool.or_eq_true]
    refine ⟨(outcome_not_bad crashAt _).1, ?_⟩
    by_cases hfin : outcomeOf crashAt (runInv digest w force order fails crashAt) = .done
    · right
      rw [hs.1, hs.2.1]
      simp only [traceOf, outcomeOf_done.mp hfin]
      exact runInv_c02 digest w force order fails crashAt hw
    · exact .inl hfin

theorem c10_event (w : World) (g : Ghost) (e : Event) (hs : Sync g w) : c10Ev g (runEvent digest w e).2 = true := by
  cases e with
  | edit f => rfl
  | removeCache => rfl
  | invoke force order fails crashAt =>
    simp only [runEvent, c10Ev, Bool.and_eq_true, bne_iff_ne, ne_eq, Bool.or_eq_true, beq_iff_eq]
    refine ⟨⟨⟨⟨(outcome_not_bad crashAt _).2, (outcome_not_bad crashAt _).1⟩, ?_⟩, ?_⟩, ?_⟩
    · -- never stuck
      intro hst
      obtain ⟨rfl, ht⟩ := outcomeOf_stuck.mp hst
      rw [runInv_terminal] at ht; cases ht
    · -- damaged cache
      by_cases hd : w.disk = .corrupt
      · right
        rw [runInv_corrupt digest w force order fails crashAt hd]
        cases crashAt with
        | none => simp [outcomeOf, traceOf, initSt]
        | some k => cases k <;> simp [outcomeOf, traceOf, initSt]
      · left
        rw [hs.2.2]
        cases hdk : w.disk <;> simp [Disk.cls] <;> exact hd hdk
    · -- cache error only for a damaged cache
      by_cases hoc : outcomeOf crashAt (runInv digest w force order fails crashAt) = .cacheError
      · right
        rw [hs.2.2, cacheError_only_corrupt digest w force order fails crashAt (outcomeOf_cacheError.mp hoc)]; rfl
      · exact .inl hoc

/-! ## the history fold: one induction for the world invariants, one for the judges -/

theorem history_preserves {W : World → Prop} {ok : Event → Bool}
    (hW : ∀ w e, ok e = true → W w → W (runEvent digest w e).1) :
    ∀ (h : History) (w : World), h.all ok = true → W w → W (runHistory digest w h).1
  | [], _, _, hw => hw
  | e :: es, w, hok, hw => by
    rw [List.all_cons, Bool.and_eq_true] at hok
    exact history_preserves hW es _ hok.2 (hW w e hok.1 hw)

/-- A judge accepts every history the model produces, up to the first event at which `stop` fires, provided its test
    passes on every event produced from a world satisfying `W` (in sync with the judge's ghost) and the events on which
    `stop` does not fire preserve `W`. -/
theorem judge_history_until {W : World → Prop} {chk : Ghost → OEvent → Bool} {stop : OEvent → Bool}
    (hW : ∀ w e, W w → stop (runEvent digest w e).2 = false → W (runEvent digest w e).1)
    (hchk : ∀ w g e, W w → Sync g w → chk g (runEvent digest w e).2 = true) :
    ∀ (h : History) (w : World) (g : Ghost), W w → Sync g w →
      (runHistory digest w h).2.any stop = true ∨ judgeWith chk g (runHistory digest w h).2 = true
  | [], _, _, _, _ => .inr rfl
  | e :: es, w, g, hw, hs => by
    simp only [runHistory, judgeWith, List.any_cons, Bool.or_eq_true, Bool.and_eq_true]
    cases hst : stop (runEvent digest w e).2 with
    | true => exact .inl (.inl rfl)
    | false =>
      rcases judge_history_until hW hchk es _ _ (hW w e hw hst) (sync_event digest g w e hs) with h | h
      · exact .inl (.inr h)
      · exact .inr ⟨hchk w g e hw hs, h⟩

theorem judge_history {W : World → Prop} {chk : Ghost → OEvent → Bool}
    (hW : ∀ w e, W w → W (runEvent digest w e).1)
    (hchk : ∀ w g e, W w → Sync g w → chk g (runEvent digest w e).2 = true)
    (h : History) (w : World) (g : Ghost) (hw : W w) (hs : Sync g w) :
    judgeWith chk g (runHistory digest w h).2 = true :=
  (judge_history_until digest (stop := fun _ => false) (fun w e hw _ => hW w e hw) hchk h w g hw hs).resolve_left
    (by simp)

theorem winv_history (h : History) (w : World) (hw : WInv digest w) : WInv digest (runHistory digest w h).1 :=
  history_preserves digest (ok := fun _ => true) (fun w e _ => winv_event digest w e) h w (by simp) hw

theorem cw_history (h : History) (w : World) (hcf : crashFree h = true) (hw : CW digest w) :
    CW digest (runHistory digest w h).1 :=
  history_preserves digest (fun w e he hw => cw_event digest w e hw (nocrash_event digest w e he)) h w hcf hw

/-- every state met in any history, kills included, satisfies the soundness invariant -/
theorem inv_of_reach {s : St} (h : Reach digest false s) : Inv digest s := by
  induction h with
  | start h _ force order fails => exact inv_init digest _ force order fails (winv_history digest h _ (winv_init digest))
  | step _ ih => exact step_inv digest _ ih

/-- every state of an invocation that follows a crash-free history satisfies the completeness invariant -/
theorem cinv_of_reach {s : St} (h : Reach digest true s) : CInv digest s := by
  induction h with
  | start h hcf force order fails =>
    exact cinv_init digest _ force order fails (cw_history digest h _ (hcf rfl) (cw_init digest))
  | step _ ih => exact step_cinv digest _ ih

/-- every task still to do in any state of any history came from `mkTask`: an unreadable one carries no items -/
theorem reach_unreadable {cf : Bool} {s : St} (hr : Reach digest cf s) :
    ∀ u ∈ s.todo, u.readable = false → u.inp.items = [] := by
  induction hr with
  | start h _ force order fails =>
    intro u hu hur
    obtain ⟨n, _, rfl⟩ := List.mem_map.mp hu
    exact (mkTask_unreadable hur).2
  | step _ ih => exact fun u hu => ih u (step_todo_mem digest _ hu)

/-- C01, C09, C10, C14: each of the judges of what holds in all histories, kills included, accepts every history the
    model produces (`c09Ev` is the first conjunct of `c01Ev`) -/
theorem judges_accept (hnc : ¬ Collision digest) (h : History) :
    c01 (runHistory digest World.init h).2 = true ∧ c09 (runHistory digest World.init h).2 = true ∧
    c10 (runHistory digest World.init h).2 = true ∧ c14 (runHistory digest World.init h).2 = true := by
  have h01 := judge_history digest (winv_event digest) (c01_event digest hnc) h _ _ (winv_init digest) sync_init
  have h09 := judge_history digest (W := fun _ => True) (chk := c09Ev) (fun _ _ _ => trivial)
    (fun w g e _ _ => by cases e <;> simp [runEvent, c09Ev, outcome_not_bad]) h _ _ trivial sync_init
  have h10 := judge_history digest (W := fun _ => True) (fun _ _ _ => trivial) (fun w g e _ => c10_event digest w g e)
    h _ _ trivial sync_init
  have h14 := judge_history digest (W := fun _ => True) (fun _ _ _ => trivial) (fun w g e _ _ => c14_event digest w g e)
    h _ _ trivial sync_init
  simp [c01, c09, c10, c14, h01, h09, h10, h14]

/-- C02: unless a kill was observed, the judge of skip completeness accepts every history the model produces -/
theorem judge_c02_accepts (h : History) (w : World) (g : Ghost) (hw : CW digest w) (hs : Sync g w) :
    hasCrash (runHistory digest w h).2 = true ∨ judgeWith c02Ev g (runHistory digest w h).2 = true :=
  judge_history_until digest (cw_event digest) (c02_event digest) h w g hw hs

/-- in a crash-free history no kill is observed (termination) -/
theorem hist_nocrash : ∀ (h : History) (w : World), crashFree h = true → hasCrash (runHistory digest w h).2 = false
  | [], _, _ => rfl
  | e :: es, w, hcf => by
    simp only [crashFree, List.all_cons, Bool.and_eq_true] at hcf
    simp only [runHistory, hasCrash, List.any_cons, Bool.or_eq_false_iff]
    exact ⟨nocrash_event digest w e hcf.1, hist_nocrash es _ hcf.2⟩

end Spok.Run
