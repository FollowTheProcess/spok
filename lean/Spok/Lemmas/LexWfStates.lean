import Spok.Lemmas.LexWf
import Spok.Lemmas.LexTerm
/-! # The well-formedness invariant of the scanner (C16): state functions, `stepTag`, the whole run

`WfT input l tag` is the invariant on (state, next state function) pairs: `Wf` plus what the predecessor
has established about how `tag` is entered (`Entry`: "`lexHash` is entered with `#` next", "`lexStart`
is entered with no pending text", …).  Once the scanner has stopped (`.done`) the state itself is no
longer constrained, only the token stream (`DoneOK`): tiles of a prefix followed by one ERROR token, or
tiles of the whole input followed by the EOF token at its end.

A hand-over keeps `Wf`, and what it establishes for the successor (`Enter`) covers `Entry`
(`HandOver.wfT`); `wfT_stepTag` adds, state function by state function, the step over the prefix action. -/
namespace Spok

@[simp] theorem L.next_backup_tokRev (l : L) : ((l.next).1.backup).tokRev = l.tokRev := L.peek_tokRev l

def Entry (l : L) : Tag → Prop
  | .start | .taskBody | .args => l.tokRev = []
  | .declare => l.tokRev = [] ∧ l.hasPrefix [COLON, EQUALS] = true
  | .hash => l.hasPrefix [HASH] = true
  | .taskKeyword => l.hasPrefix [116, 97, 115, 107] = true
  | .leftParen => l.hasPrefix [LPAREN] = true
  | .rightParen => l.hasPrefix [RPAREN] = true
  | .outputOp => l.hasPrefix [MINUS, GT] = true
  | .leftBrace => l.hasPrefix [LBRACE] = true
  | .rightBrace => l.hasPrefix [RBRACE] = true
  | .comma => l.hasPrefix [COMMA] = true
  | _ => True

def DoneOK (input : List Rune) (toks : List Tok) : Prop :=
  ∃ ts e, toks = ts ++ [e] ∧
    ((e.ty = .error ∧ ∃ b rest, b.reverse ++ rest = input ∧ TilesR b ts) ∨
     (e = ⟨.eof, [], bytesLen input, 1 + nl input, 0⟩ ∧ TilesR input.reverse ts))

def WfT (input : List Rune) (l : L) : Tag → Prop
  | .done => DoneOK input l.toks.toList
  | .spin => True
  | t => Wf input l ∧ Entry l t

theorem wfT_intro {input : List Rune} {l : L} (t : Tag) (hd : t ≠ .done) (hs : t ≠ .spin) (h : Wf input l)
    (he : Entry l t) : WfT input l t := by
  cases t <;> first | exact ⟨h, he⟩ | exact absurd rfl hd | exact absurd rfl hs

theorem WfT.error {input : List Rune} {l : L} (h : TilesOK input l.toks) : WfT input (l.error).1 (l.error).2 := by
  obtain ⟨b, rest, h1, h2⟩ := h
  exact ⟨l.toks.toList, ⟨.error, [], l.start, l.startLine, l.line⟩, by simp [L.error], Or.inl ⟨rfl, b, rest, h1, h2⟩⟩

theorem WfT.eof {input : List Rune} {l : L} (h : Wf input l) (ht : l.tokRev = []) (hr : l.right = []) :
    WfT input (l.emit .eof) .done := by
  obtain ⟨before, e1, e2, e3, e4⟩ := h.tok
  have hl : l.left = input.reverse := by
    have := h.zip; rw [hr] at this; rw [← this]; simp
  have hb : before = input.reverse := by rw [← hl, e1, ht]; rfl
  subst hb
  refine ⟨l.toks.toList, ⟨.eof, l.tokRev.reverse, l.start, l.startLine, 0⟩, by simp [L.emit], Or.inr ⟨?_, e4⟩⟩
  simp [ht, e2, e3]

section
variable {input : List Rune} {l : L} {t : Tag}

/-- what the successor relies on covers what `WfT` asks of it -/
theorem Enter.entry (h : Enter l t) : Entry l t := by
  obtain ⟨hp, ht⟩ := h
  cases t <;> first | exact hp | exact ht | exact ⟨ht, hp⟩ | trivial

theorem HandOver.wfT {p : L × Tag} (h : HandOver t l p) (hw : Wf input l) : WfT input p.1 p.2 := by
  have he := h.enter
  cases h with
  | stay hl hm =>
    have hf := hm.2.1
    exact wfT_intro _ (by rintro rfl; cases hf) (by rintro rfl; cases hf) (hw.readsTo hl) (he hf).entry
  | take hl _ _ hk =>
    have hf := hk.final
    exact wfT_intro _ (by rintro rfl; cases hf) (by rintro rfl; cases hf) (hw.readsTo hl) (he hf).entry
  | error hl => exact WfT.error (hw.readsTo hl).tilesOK
  | eof hl _ ht hr => exact WfT.eof (hw.readsTo hl) (by rw [hl.tokRev]; exact ht) (hl.right.symm.trans hr)

theorem Wf.absorbed (hw : Wf input l) (hp : l.hasPrefix t.spell = true) (ty : TT)
    (hs : ∀ c ∈ t.spell, c < 128 ∧ c ≠ NL := by decide) (h1 : ty ≠ .error := by decide) (h2 : ty ≠ .eof := by decide) :
    Wf input ((l.absorb t.spell.length).emit ty) :=
  (hw.absorb t.spell hp hs).emit ty h1 h2

theorem Wf.skipWs_nil (hw : Wf input l) (ht : l.tokRev = []) : Wf input (Spok.skipWs l) := hw.skipWs (by simp [ht])

theorem wfT_stepTag {l : L} {t : Tag} (h : WfT input l t) : WfT input (stepTag l t).1 (stepTag l t).2 := by
  cases t <;> simp only [stepTag]
  case start => exact lexStart_out.1.wfT (h.1.skipWs_nil h.2)
  case hash => exact (lexHash_out (L.right_ne_nil_of_hasPrefix h.2)).wfT (h.1.absorbed (t := .hash) h.2 .hash)
  case comment => exact lexComment_out.wfT (h.1.scanComment.emit .comment (by decide) (by decide))
  case taskKeyword =>
    exact (lexTaskKeyword_out (L.right_ne_nil_of_hasPrefix h.2)).wfT ((h.1.absorbed (t := .taskKeyword) h.2 .task).skipWs_nil rfl)
  case leftParen =>
    exact (lexLeftParen_out (L.right_ne_nil_of_hasPrefix h.2)).wfT ((h.1.absorbed (t := .leftParen) h.2 .lparen).skipWs_nil rfl)
  case rightParen =>
    exact (lexRightParen_out (L.right_ne_nil_of_hasPrefix h.2)).wfT ((h.1.absorbed (t := .rightParen) h.2 .rparen).skipWs_nil rfl)
  case outputOp =>
    exact (lexOutputOp_out (L.right_ne_nil_of_hasPrefix h.2)).wfT ((h.1.absorbed (t := .outputOp) h.2 .output).skipWs_nil rfl)
  case leftBrace =>
    exact (lexLeftBrace_out (L.right_ne_nil_of_hasPrefix h.2)).wfT ((h.1.absorbed (t := .leftBrace) h.2 .lbrace).skipWs_nil rfl)
  case rightBrace => exact (lexRightBrace_out (L.right_ne_nil_of_hasPrefix h.2)).wfT (h.1.absorbed (t := .rightBrace) h.2 .rbrace)
  case taskBody =>
    obtain ⟨l1, rfl | rfl, ho⟩ := lexTaskBody_out (l := l)
    · exact ho.wfT h.1
    · exact ho.wfT (h.1.skipWs_nil h.2)
  case taskCommands =>
    obtain ⟨l1, hw, ho⟩ := lexTaskCommands_out (P := Wf input) (l := l)
      (fun m r rs hp _ _ => ((hp.readsTo (.peek m)).stripCR.emit .command (by decide) (by decide)).skipWs_nil rfl)
      (fun m r rs s hp _ _ hs hb => by rcases hs with rfl | rfl <;> exact (hp.readsTo (.next_any m)).absorb _ hb (by decide))
      (fun m r rs hp _ _ => hp.readsTo (.next_any m))
      (fun m r rs hp _ _ => closeCmd_ind (fun m h => h.readsTo (.peek m)) (fun _ h hs => h.stepBack SP hs (by omega) (by omega))
        (fun _ => Wf.stripCR) (fun _ h _ => h.emit .command (by decide) (by decide)) (fun _ => Wf.skipWs_nil) hp)
      h.1
    exact ho.wfT hw
  case taskName => exact lexTaskName_out.wfT ((h.1.scanIdent.emit .ident (by decide) (by decide)).skipWs_nil rfl)
  case ident => exact lexIdent_out.1.wfT ((h.1.scanIdent.emit .ident (by decide) (by decide)).skipWs_nil rfl)
  case args => exact lexArgs_out.wfT (h.1.skipWs_nil h.2)
  case comma =>
    exact (lexComma_out (L.right_ne_nil_of_hasPrefix h.2)).wfT ((h.1.absorbed (t := .comma) h.2 .comma).skipWs_nil rfl)
  case declare =>
    have hr := skipWs_right_of_hasPrefix h.2.2 (by decide)
    have hp : (skipWs l).hasPrefix [COLON, EQUALS] = true := by rw [L.hasPrefix_congr hr]; exact h.2.2
    exact (lexDeclare_out (L.right_ne_nil_of_hasPrefix hp)).wfT
      (((h.1.skipWs_nil h.2.1).absorbed (t := .declare) hp .declare).skipWs_nil rfl)
  case string =>
    obtain ⟨l', hs, e⟩ | ⟨l', hs, ho⟩ := lexString_out (l := l)
    · rw [e]; exact WfT.error (by rw [scanString_toks l l' (Or.inr hs)]; exact h.1.tilesOK)
    · exact ho.wfT ((h.1.scanString hs).emit .string (by decide) (by decide))
  case declString =>
    obtain ⟨l', hs, e⟩ | ⟨l', hs, ho⟩ := lexDeclString_out (l := l)
    · rw [e]; exact WfT.error (by rw [scanString_toks l l' (Or.inr hs)]; exact h.1.tilesOK)
    · obtain ⟨m, r, e⟩ := declTail_reads (l'.emit .string)
      exact ho.wfT (e ▸ ((h.1.scanString hs).emit .string (by decide) (by decide)).discard_reads (by simp) r
        fun _ hx => isSpace_of_isBlank (of_mem_takeWhile hx))
  case done | spin => exact h

theorem lexRunes_doneOK {rs : List Rune} (h : RunesOK rs) : DoneOK rs (lexRunes rs).toks := by
  obtain ⟨l, hl, e⟩ := lexRunes_inv (I := WfT rs) (fun _ _ => wfT_stepTag) rs
    (wfT_intro .start (by decide) (by decide) (Wf.init h) rfl)
  rw [e]; exact hl

end

end Spok
