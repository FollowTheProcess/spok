import Spok.Lemmas.WfTok
/-! # The parser on a value-level admissible token stream: one specification per parse function

On a token list `ts` with `StrV inp m ts` every parse function either rejects a token *of `ts`* (`Rej`:
`lexErr` on an ERROR token, `illegal` on any other), or returns pieces that satisfy the executable
well-formedness conditions of `Syntax/WF.lean` and whose texts are slices of the input (`nodeQ`),
together with a suffix of `ts` that is again an admissible stream (`Res`).  Hence `pnext` never reads the
exhausted list, `parseCommands` meets `}` or the ERROR token and `parseLoop`'s fuel suffices (C08), and a
successful parse returns a well-formed tree (C07).  The two adjacency conditions of `adjOKB` are
conditions on the token after a statement (`After`): a non-empty comment is not followed by `task`,
because `parseLoop` turns `# c` + `task` into a docstring whenever `c` is not empty; `NAME := OTHER` is
the last statement, because after the value identifier the stream is in mode `afterIdent`, which emits
no token that begins a statement. -/
namespace Spok.PW
open Spok

variable {inp : List Rune}

/-! ## texts -/

def IdTxt (inp v : List Rune) : Prop := Sl inp v ∧ identRunesB v = true

def argQ (inp : List Rune) : Arg → Prop
  | .str s => SlA inp s
  | .ident n => IdTxt inp n

def valQ (inp : List Rune) : Val → Prop
  | .str s => SlA inp s
  | .ident n => IdTxt inp n
  | .call f args => IdTxt inp f ∧ ∀ a ∈ args, argQ inp a

def nodeQ (inp : List Rune) : Node → Prop
  | .comment c => SlA inp c
  | .assign n v => IdTxt inp n ∧ valQ inp v
  | .task name doc deps outs cmds =>
    IdTxt inp name ∧ SlA inp doc ∧ (∀ a ∈ deps, argQ inp a) ∧ (∀ a ∈ outs, argQ inp a) ∧ ∀ c ∈ cmds, SlA inp c

def ArgOK (inp : List Rune) (a : Arg) : Prop := argOKB a = true ∧ argQ inp a
def NodeOK (inp : List Rune) (n : Node) : Prop := nodeOKB n = true ∧ nodeQ inp n

theorem str_argOK {v : List Rune} (h : StrTokOK inp v) : ArgOK inp (.str (stripQuotes v)) := by
  obtain ⟨q1, s, q2, rfl, h1, h2, hs, pre, post, hsl⟩ := h
  have hnq : ∀ x ∈ s, (x.cp != QUOTE) = true := by
    simp only [strOKB, Bool.and_eq_true, List.all_eq_true] at hs
    exact hs.1
  have : stripQuotes (q1 :: s ++ [q2]) = s := by
    simp [stripQuotes, h1, h2, List.filter_eq_self.mpr hnq]
  rw [this]
  exact ⟨hs, pre ++ [q1], q2 :: post, by rw [hsl]; simp, show q2.cp < 128 by omega⟩

theorem ident_argOK {m : VM} {v : List Rune} (h : tokOK inp m .ident v) (hm : m ≠ .afterTask) : ArgOK inp (.ident v) := by
  obtain ⟨h1, h2, _, h4⟩ := h
  refine ⟨?_, h4, h1⟩
  cases v with
  | nil => exact absurd rfl (h2 hm)
  | cons x xs => simpa [argOKB] using h1

/-! ## reading a stream, and facts about the mode table -/

theorem StrV.step {m : VM} {t : Tok} {ts : List Tok} {ty : TT} (h : StrV inp m (t :: ts)) (hty : t.ty = ty)
    (h1 : ty ≠ .eof := by decide) (h2 : ty ≠ .error := by decide) :
    tokOK inp m ty t.val ∧ ∃ m', transV m ty = some m' ∧ StrV inp m' ts := by
  subst hty; exact h.tail h1 h2

theorem StrV.afterHash {t : Tok} {ts : List Tok} (h : StrV inp .afterHash (t :: ts)) :
    t.ty = .comment ∧ tokOK inp .afterHash .comment t.val ∧ StrV inp .top ts := by
  obtain ⟨hok, m', hm, hs⟩ := h.tail_after (.inl rfl)
  cases hty : t.ty <;> rw [hty] at hm hok <;> cases hm
  exact ⟨rfl, hok, hs⟩

theorem StrV.afterTask {t : Tok} {ts : List Tok} (h : StrV inp .afterTask (t :: ts)) :
    t.ty = .ident ∧ tokOK inp .afterTask .ident t.val ∧ StrV inp .needLParen ts := by
  obtain ⟨hok, m', hm, hs⟩ := h.tail_after (.inr rfl)
  cases hty : t.ty <;> rw [hty] at hm hok <;> cases hm
  exact ⟨rfl, hok, hs⟩

theorem transV_rparen {m m' : VM} (h : transV m .rparen = some m') : m' = .afterRParen := by
  cases m <;> cases h <;> rfl

theorem transV_lbrace {m m' : VM} (h : transV m .lbrace = some m') : m' = .body0 := by
  cases m <;> cases h <;> rfl

theorem transV_afterTask {m : VM} {ty : TT} (h : transV m ty = some .afterTask) : ty = .task := by
  unfold transV at h; split at h <;> first | rfl | cases h

theorem transV_afterHash {m : VM} {ty : TT} (h : transV m ty = some .afterHash) : ty = .hash := by
  unfold transV at h; split at h <;> first | rfl | cases h

theorem transV_body {m m' : VM} {ty : TT} (hm : m = .body0 ∨ m = .body1) (h : transV m ty = some m') :
    ty = .command ∧ m' = .body1 ∨ ty = .rbrace ∧ m' = .top := by
  rcases hm with rfl | rfl <;> cases ty <;> cases h <;> first | exact .inl ⟨rfl, rfl⟩ | exact .inr ⟨rfl, rfl⟩

/-- the token types on which `parseLoop` begins a statement -/
def Stmt (ty : TT) : Prop := ty = .hash ∨ ty = .ident ∨ ty = .task

/-- the modes in which the statement loop of the parser can find itself -/
def LoopMode (m : VM) : Prop := m = .top ∨ m = .afterRParen ∨ m = .afterIdent

theorem StrV.afterIdent {t : Tok} {ts : List Tok} (h : StrV inp .afterIdent (t :: ts)) : ¬ Stmt t.ty := by
  rintro (e | e | e) <;> obtain ⟨_, _, hm, _⟩ := h.step e <;> cases hm

theorem LoopMode.top {m : VM} {t : Tok} {ts : List Tok} (hm : LoopMode m) (h : StrV inp m (t :: ts)) (hty : Stmt t.ty) :
    StrV inp .top (t :: ts) := by
  rcases hm with rfl | rfl | rfl
  · exact h
  · have hne : t.ty ≠ .eof ∧ t.ty ≠ .error := by rcases hty with e | e | e <;> rw [e] <;> decide
    obtain ⟨hok, m', hm', hs⟩ := h.tail hne.1 hne.2
    refine .inr ⟨?_, m', ?_, hs⟩ <;> rcases hty with e | e | e <;> rw [e] at hok hm' ⊢
    · trivial
    · exact ⟨hok.1, fun _ => hok.2.1 (by decide), fun _ => hok.2.2.1 (.inr (.inl rfl)), hok.2.2.2⟩
    · trivial
    all_goals exact hm'
  · exact absurd hty h.afterIdent

/-! ## the parse functions -/

variable {c : PCtx}

/-- `f` is the error the parser builds when it rejects the token `t` -/
def Rejects (c : PCtx) (t : Tok) (f : PFail) : Prop :=
  (t.ty = .error ∧ f = lexErr c t) ∨ (t.ty ≠ .error ∧ f = illegal c t)

def Rej (c : PCtx) (ts : List Tok) (f : PFail) : Prop := ∃ t ∈ ts, Rejects c t f

def Res {α : Type} (c : PCtx) (ts : List Tok) (Q : α → List Tok → Prop) : PRes α → Prop
  | .error f => Rej c ts f
  | .ok (a, ts') => ts' <:+ ts ∧ Q a ts'

theorem Rej.mono {ts ts0 : List Tok} {f : PFail} (h : Rej c ts f) (hs : ts <:+ ts0) : Rej c ts0 f := by
  obtain ⟨t, ht, hr⟩ := h
  exact ⟨t, hs.subset ht, hr⟩

theorem Res.mono {α : Type} {ts ts0 : List Tok} {Q : α → List Tok → Prop} {r : PRes α} (h : Res c ts Q r)
    (hs : ts <:+ ts0) : Res c ts0 Q r := by
  match r, h with
  | .error f, h => exact Rej.mono h hs
  | .ok (a, ts'), h => exact ⟨h.1.trans hs, h.2⟩

theorem Res.imp {α : Type} {ts : List Tok} {Q Q' : α → List Tok → Prop} {r : PRes α} (h : Res c ts Q r)
    (hq : ∀ a ts', Q a ts' → Q' a ts') : Res c ts Q' r := by
  match r, h with
  | .error f, h => exact h
  | .ok (a, ts'), h => exact ⟨h.1, hq _ _ h.2⟩

/-- An eliminator and not a lemma about `match r with …`: each parse function has matchers of its own, with which a
    stated `match` does not unify, whereas `elab_as_elim` abstracts the sub-parse in the goal.  The error is passed
    on; result and rest go to `ok`. -/
@[elab_as_elim]
theorem Res.bind {α : Type} {ts ts0 : List Tok} {Q : α → List Tok → Prop} {motive : PRes α → Prop} {r : PRes α}
    (h : Res c ts Q r) (hs : ts <:+ ts0) (error : ∀ f, Rej c ts0 f → motive (.error f))
    (ok : ∀ a ts', ts' <:+ ts0 → Q a ts' → motive (.ok (a, ts'))) : motive r := by
  match r, h with
  | .error f, h => exact error f (h.mono hs)
  | .ok (a, ts'), h => exact ok a ts' (h.1.trans hs) h.2

theorem rej_error {t : Tok} {ts : List Tok} (h : t.ty = .error) : Rej c (t :: ts) (lexErr c t) :=
  ⟨t, by simp, Or.inl ⟨h, rfl⟩⟩

theorem rej_illegal {t : Tok} {ts : List Tok} (h : t.ty ≠ .error) : Rej c (t :: ts) (illegal c t) :=
  ⟨t, by simp, Or.inr ⟨h, rfl⟩⟩

def ExpRes (inp : List Rune) (c : PCtx) (m : VM) (ty : TT) (ts : List Tok) : Except PFail (List Tok) → Prop
  | .error f => Rej c ts f
  | .ok ts' => ∃ t, ts = t :: ts' ∧ tokOK inp m ty t.val ∧ ∃ m', transV m ty = some m' ∧ StrV inp m' ts'

theorem expect_spec {m : VM} (ty : TT) (hne : ty ≠ .eof ∧ ty ≠ .error) {ts : List Tok} (h : StrV inp m ts) :
    ExpRes inp c m ty ts (expect c ty ts) := by
  cases ts with
  | nil => exact h.elim
  | cons t ts1 =>
    by_cases h3 : t.ty = .error
    · have : expect c ty (t :: ts1) = .error (lexErr c t) := by simp [expect, pnext, h3]
      rw [this]; exact rej_error h3
    · by_cases hty : t.ty = ty
      · have : expect c ty (t :: ts1) = .ok ts1 := by simp [expect, pnext, ← hty, h3]
        rw [this]; exact ⟨t, rfl, h.step hty hne.1 hne.2⟩
      · have : expect c ty (t :: ts1) = .error (illegal c t) := by simp [expect, pnext, h3, hty]
        rw [this]; exact rej_illegal h3

@[elab_as_elim]
theorem ExpRes.bind {m : VM} {ty : TT} {ts ts0 : List Tok} {motive : Except PFail (List Tok) → Prop}
    {r : Except PFail (List Tok)} (h : ExpRes inp c m ty ts r) (hs : ts <:+ ts0)
    (error : ∀ f, Rej c ts0 f → motive (.error f))
    (ok : ∀ t ts', t :: ts' <:+ ts0 → tokOK inp m ty t.val → ∀ m', transV m ty = some m' → StrV inp m' ts' →
      motive (.ok ts')) : motive r := by
  match r, h with
  | .error f, h => exact error f (h.mono hs)
  | .ok ts', ⟨t, e, hok, m', hm', hs'⟩ => exact ok t ts' (e ▸ hs) hok m' hm' hs'

theorem parseArgList_spec : ∀ (ts : List Tok) (acc : List Arg) (m : VM),
    StrV inp m ts → m ≠ .afterTask → (∀ a ∈ acc, ArgOK inp a) →
    Res c ts (fun args ts' => (∀ a ∈ args, ArgOK inp a) ∧ StrV inp .afterRParen ts') (parseArgList c ts acc)
  | [], _, _, h, _, _ => h.elim
  | t :: ts, acc, m, h, hm, hacc => by
    have next : ∀ {ty m'}, transV m ty = some m' → ty ≠ .task → m' ≠ .afterTask :=
      fun hm' hty hc => hty (transV_afterTask (hc ▸ hm'))
    have push : ∀ {a}, ArgOK inp a → ∀ x ∈ a :: acc, ArgOK inp x := fun ha =>
      List.forall_mem_cons.mpr ⟨ha, hacc⟩
    unfold parseArgList
    split
    · rename_i hty
      obtain ⟨_, m', hm', hs⟩ := h.step hty
      rw [transV_rparen hm'] at hs
      exact ⟨List.suffix_cons t ts, fun a ha => hacc a (by simpa using ha), hs⟩
    · rename_i hty
      obtain ⟨hok, m', hm', hs⟩ := h.step hty
      exact (parseArgList_spec ts _ m' hs (next hm' (by decide)) (push (str_argOK hok))).mono (List.suffix_cons t ts)
    · rename_i hty
      obtain ⟨hok, m', hm', hs⟩ := h.step hty
      exact (parseArgList_spec ts _ m' hs (next hm' (by decide)) (push (ident_argOK hok hm))).mono (List.suffix_cons t ts)
    · rename_i hty
      obtain ⟨_, m', hm', hs⟩ := h.step hty
      exact (parseArgList_spec ts _ m' hs (next hm' (by decide)) hacc).mono (List.suffix_cons t ts)
    · rename_i hty; exact rej_error hty
    · rename_i h5; exact rej_illegal h5

theorem parseOutputs_spec {ts : List Tok} (h : StrV inp .afterRParen ts) :
    Res c ts (fun outs ts' => (∀ a ∈ outs, ArgOK inp a) ∧ ∃ m', StrV inp m' ts') (parseOutputs c ts) := by
  unfold parseOutputs
  split
  · exact h.elim
  · rename_i t ts1
    split
    · exact ⟨List.suffix_refl _, by simp, _, h⟩
    · rename_i hty
      have hty : t.ty = .output := by simpa using hty
      obtain ⟨_, _, ⟨⟩, hs⟩ := h.step hty
      cases ts1 with
      | nil => exact hs.elim
      | cons n ts2 =>
        have suf : ts2 <:+ t :: n :: ts2 := ⟨[t, n], rfl⟩
        simp only [pnext]
        split
        · rename_i hn
          obtain ⟨hok, m', _, hs2⟩ := hs.step hn
          exact ⟨suf, by simpa using str_argOK hok, m', hs2⟩
        · rename_i hn
          obtain ⟨hok, m', _, hs2⟩ := hs.step hn
          exact ⟨suf, by simpa using ident_argOK hok (by decide), m', hs2⟩
        · rename_i hn
          obtain ⟨_, m', _, hs2⟩ := hs.step hn
          exact ⟨suf, by simp, m', hs2⟩
        · rename_i hn
          obtain ⟨_, _, ⟨⟩, hs2⟩ := hs.step hn
          exact ((parseArgList_spec ts2 [] _ hs2 (by decide) (by simp)).mono suf).imp fun _ _ h => ⟨h.1, _, h.2⟩
        · rename_i hn; exact (rej_error hn).mono (List.suffix_cons t _)
        · rename_i hn; exact (rej_illegal hn).mono (List.suffix_cons t _)

theorem parseCommands_spec : ∀ (ts : List Tok) (acc : List (List Rune)) (m : VM), m = .body0 ∨ m = .body1 → StrV inp m ts →
    Res c ts (fun cmds ts' => ∃ more, cmds = acc.reverse ++ more ∧ StrV inp .top ts' ∧
      (m = .body0 → cmdsOKB more = true) ∧ (m ≠ .body0 → more.all nextCmdOKB = true) ∧ ∀ x ∈ more, SlA inp x)
      (parseCommands c ts acc)
  | [], _, _, _, h => h.elim
  | t :: ts, acc, m, hm, h => by
    unfold parseCommands
    split
    · rename_i hty; exact rej_error hty
    · rename_i hty
      obtain ⟨_, m', hm', hs⟩ := h.step hty
      obtain ⟨⟨⟩, _⟩ | ⟨_, rfl⟩ := transV_body hm hm'
      exact ⟨List.suffix_cons t ts, [], by simp, hs, fun _ => rfl, fun _ => rfl, by simp⟩
    · rename_i hty
      obtain ⟨⟨k1, k2, k3⟩, m', hm', hs⟩ := h.step hty
      obtain ⟨_, rfl⟩ | ⟨⟨⟩, _⟩ := transV_body hm hm'
      refine ((parseCommands_spec ts _ .body1 (.inr rfl) hs).mono (List.suffix_cons t ts)).imp ?_
      rintro cmds ts' ⟨more, e1, e2, -, e4, e5⟩
      refine ⟨t.val :: more, by rw [e1]; simp, e2, fun hf => ?_, fun hf => ?_, List.forall_mem_cons.mpr ⟨k3, e5⟩⟩
      · simp [cmdsOKB, k1 hf, e4]
      · simp [k2 hf, e4]
    · rename_i h1 h2 h3
      rcases h with ⟨_, hf⟩ | ⟨_, m', hm', _⟩
      · rcases hf with ⟨hx, _⟩ | ⟨_, hx⟩
        · exact absurd hx h1
        · rcases hm with rfl | rfl <;> cases hx
      · rcases transV_body hm hm' with ⟨e, _⟩ | ⟨e, _⟩
        · exact absurd e h3
        · exact absurd e h2

theorem parseTask_spec {ts : List Tok} {doc : List Rune} (h : StrV inp .afterTask ts)
    (hdoc : commentOKB doc = true ∧ SlA inp doc) :
    Res c ts (fun node ts' => NodeOK inp node ∧ StrV inp .top ts' ∧
      ∃ name deps outs cmds, node = .task name doc deps outs cmds) (parseTask c doc ts) := by
  cases ts with
  | nil => exact h.elim
  | cons nt ts1 =>
    obtain ⟨-, ⟨i1, -, -, i4⟩, hs1⟩ := h.afterTask
    unfold parseTask
    simp only [pnext]
    refine (expect_spec .lparen (by decide) hs1).bind (List.suffix_cons nt ts1) (fun _ h => h) fun t2 ts2 k2 _ _ hm2 hs2 => ?_
    cases hm2
    dsimp only
    refine (parseArgList_spec ts2 [] _ hs2 (by decide) (by simp)).bind ((List.suffix_cons t2 ts2).trans k2) (fun _ h => h)
      fun deps ts3 k3 ⟨hdeps, hs3⟩ => ?_
    dsimp only
    refine (parseOutputs_spec hs3).bind k3 (fun _ h => h) fun outs ts4 k4 ⟨houts, m4, hs4⟩ => ?_
    dsimp only
    refine (expect_spec .lbrace (by decide) hs4).bind k4 (fun _ h => h) fun t5 ts5 k5 _ _ hm5 hs5 => ?_
    rw [transV_lbrace hm5] at hs5
    dsimp only
    refine (parseCommands_spec ts5 [] _ (.inl rfl) hs5).bind ((List.suffix_cons t5 ts5).trans k5) (fun _ h => h)
      fun cmds ts6 k6 ⟨more, e1, e2, e3, _, e5⟩ => ?_
    subst e1
    refine ⟨k6, ⟨?_, ⟨i4, i1⟩, hdoc.2, fun a ha => (hdeps a ha).2, fun a ha => (houts a ha).2, e5⟩, e2, _, _, _, _, rfl⟩
    simp only [nodeOKB, Bool.and_eq_true, List.all_eq_true]
    exact ⟨⟨⟨⟨i1, hdoc.1⟩, fun a ha => (hdeps a ha).1⟩, fun a ha => (houts a ha).1⟩, e3 rfl⟩

/-! ## adjacency; assignments, whose value decides what may follow -/

/-- what follows a statement in the stream: after a non-empty comment not `task` (it would have become
    the docstring), after `NAME := OTHER` nothing that begins a statement -/
def After (x : Node) (ts : List Tok) : Prop :=
  ∀ t ts', ts = t :: ts' → (x.isNonEmptyComment = true → t.ty ≠ .task) ∧ (x.isIdentAssign = true → ¬ Stmt t.ty)

theorem After.of_false {x : Node} {ts : List Tok} (h1 : x.isNonEmptyComment = false) (h2 : x.isIdentAssign = false) :
    After x ts :=
  fun _ _ _ => ⟨fun h => (by rw [h1] at h; cases h), fun h => (by rw [h2] at h; cases h)⟩

theorem parseAssign_spec {t : Tok} {ts : List Tok} (ht : tokOK inp .top .ident t.val) (h : StrV inp .afterIdent ts) :
    Res c ts (fun node ts' => NodeOK inp node ∧ node.isDoclessTask = false ∧ After node ts' ∧
      ∃ m', LoopMode m' ∧ StrV inp m' ts') (parseAssign c t ts) := by
  obtain ⟨t1, t2, t3, t4⟩ := ht
  have mk : ∀ {v}, valOKB v = true → valQ inp v → NodeOK inp (.assign t.val v) := fun hb hq => by
    refine ⟨?_, ⟨t4, t1⟩, hq⟩
    have : t.val.isEmpty = false := by
      cases hv : t.val with
      | nil => exact absurd hv (t2 (by decide))
      | cons x xs => rfl
    rw [nodeOKB, this, t1, t3 (.inl rfl), hb]; rfl
  unfold parseAssign
  refine (expect_spec .declare (by decide) h).bind (List.suffix_refl _) (fun _ h => h) fun d ts1 k1 _ _ hm1 hs1 => ?_
  cases hm1
  cases ts1 with
  | nil => exact hs1.elim
  | cons n ts2 =>
    have k2 : ts2 <:+ ts := (List.suffix_cons n ts2).trans ((List.suffix_cons d _).trans k1)
    simp only [pnext]
    split
    · -- NAME := "string"
      rename_i hn
      obtain ⟨hok, _, ⟨⟩, hs2⟩ := hs1.step hn
      obtain ⟨f1, f2⟩ := str_argOK hok
      exact ⟨k2, mk f1 f2, rfl, .of_false rfl rfl, _, .inl rfl, hs2⟩
    · rename_i hn
      obtain ⟨hok, _, ⟨⟩, hs2⟩ := hs1.step hn
      obtain ⟨a1, a2⟩ := ident_argOK hok (by decide)
      split
      · rename_i tk2 ts3
        split
        · -- NAME := f( … )
          rename_i hl
          obtain ⟨_, _, ⟨⟩, hs3⟩ := hs2.step (beq_iff_eq.mp hl)
          refine (parseArgList_spec ts3 [] _ hs3 (by decide) (by simp)).bind ((List.suffix_cons tk2 ts3).trans k2)
            (fun _ h => h) fun args ts4 k4 ⟨hargs, hs4⟩ => ?_
          refine ⟨k4, mk ?_ ⟨a2, fun a ha => (hargs a ha).2⟩, rfl, .of_false rfl rfl, _, .inr (.inl rfl), hs4⟩
          rw [valOKB, show (!n.val.isEmpty && identRunesB n.val) = true from a1,
            List.all_eq_true.mpr fun a ha => (hargs a ha).1]; rfl
        · -- NAME := OTHER
          refine ⟨k2, mk a1 a2, rfl, ?_, _, .inr (.inr rfl), hs2⟩
          rintro t' ts' ⟨⟩
          exact ⟨fun hh => (by cases hh), fun _ => hs2.afterIdent⟩
      · exact hs2.elim
    · rename_i hn; exact (rej_error hn).mono ((List.suffix_cons d _).trans k1)
    · rename_i hn; exact (rej_illegal hn).mono ((List.suffix_cons d _).trans k1)

theorem adjOKB_snoc : ∀ (xs : List Node) (y : Node), adjOKB (xs ++ [y]) =
    (adjOKB xs && match xs.getLast? with
      | none => true
      | some x => !(x.isNonEmptyComment && y.isDoclessTask) && !x.isIdentAssign)
  | [], y => by simp [adjOKB]
  | [x], y => by simp [adjOKB]
  | x :: x2 :: xs, y => by
    have ih := adjOKB_snoc (x2 :: xs) y
    simp only [List.cons_append] at ih ⊢
    rw [adjOKB, ih, adjOKB]
    simp only [List.getLast?_cons_cons]
    cases (!(x.isNonEmptyComment && x2.isDoclessTask) && !x.isIdentAssign) <;> simp

/-- the statements parsed so far (last one first) and the rest of the stream -/
structure AccInv (inp : List Rune) (acc : List Node) (ts : List Tok) : Prop where
  nodes : ∀ n ∈ acc, NodeOK inp n
  adj : adjOKB acc.reverse = true
  after : ∀ x rest, acc = x :: rest → After x ts

def TreeOK (inp : List Rune) (tree : Tree) : Prop := wfTree tree = true ∧ ∀ n ∈ tree, nodeQ inp n

theorem AccInv.done {acc : List Node} {ts : List Tok} (h : AccInv inp acc ts) : TreeOK inp acc.reverse := by
  refine ⟨?_, fun n hn => (h.nodes n (by simpa using hn)).2⟩
  simp only [wfTree, Bool.and_eq_true, List.all_eq_true]
  exact ⟨fun n hn => (h.nodes n (by simpa using hn)).1, h.adj⟩

/-- one more statement, begun by the token `t`: a task without docstring only by `task` itself -/
theorem AccInv.push {acc : List Node} {t : Tok} {ts ts' : List Tok} {node : Node} (h : AccInv inp acc (t :: ts))
    (hty : Stmt t.ty) (hn : NodeOK inp node) (hd : node.isDoclessTask = true → t.ty = .task) (ha : After node ts') :
    AccInv inp (node :: acc) ts' := by
  refine ⟨List.forall_mem_cons.mpr ⟨hn, h.nodes⟩, ?_, fun x rest hx => by cases hx; exact ha⟩
  rw [List.reverse_cons, adjOKB_snoc, h.adj, List.getLast?_reverse]
  cases acc with
  | nil => rfl
  | cons x rest =>
    obtain ⟨h1, h2⟩ := h.after x rest rfl t ts rfl
    have e1 : x.isIdentAssign = false := by
      cases hi : x.isIdentAssign
      · rfl
      · exact absurd hty (h2 hi)
    have e2 : (x.isNonEmptyComment && node.isDoclessTask) = false := by
      cases hc : x.isNonEmptyComment
      · rfl
      · cases hk : node.isDoclessTask
        · rfl
        · exact absurd (hd hk) (h1 hc)
    simp [e1, e2]

/-! ## the statement loop -/

def LoopRes (inp : List Rune) (c : PCtx) (ts : List Tok) : List Node × Option PFail → Prop
  | (tree, none) => TreeOK inp tree
  | (_, some f) => Rej c ts f

theorem LoopRes.mono {ts ts0 : List Tok} {r : List Node × Option PFail} (h : LoopRes inp c ts r) (hs : ts <:+ ts0) :
    LoopRes inp c ts0 r := by
  match r, h with
  | (_, none), h => exact h
  | (_, some f), h => exact Rej.mono h hs

theorem parseLoop_spec : ∀ (fuel : Nat) (ts : List Tok) (acc : List Node) (m : VM),
    LoopMode m → StrV inp m ts → AccInv inp acc ts → ts.length < fuel → LoopRes inp c ts (parseLoop c fuel ts acc) := by
  intro fuel
  induction fuel with
  | zero => intro ts acc m _ _ _ hl; omega
  | succ fuel ih =>
    intro ts acc m hlm h hacc hl
    unfold parseLoop
    cases ts with
    | nil => exact h.elim
    | cons t ts =>
      -- the loop goes on at a suffix `ts'` of `ts`, behind one more statement
      have go : ∀ {node ts' m'}, ts' <:+ ts → LoopMode m' → StrV inp m' ts' → AccInv inp (node :: acc) ts' →
          LoopRes inp c (t :: ts) (parseLoop c fuel ts' (node :: acc)) := fun k hm' hs ha =>
        (ih _ _ _ hm' hs ha (by have := k.length_le; simp only [List.length_cons] at hl; omega)).mono
          (k.trans (List.suffix_cons t ts))
      simp only []
      split
      · exact hacc.done
      · rename_i hty; exact rej_error hty
      · -- `#`
        rename_i hty
        have hst : Stmt t.ty := .inl hty
        obtain ⟨_, _, ⟨⟩, hs1⟩ := (hlm.top h hst).step hty
        cases ts with
        | nil => exact hs1.elim
        | cons cm ts1 =>
          obtain ⟨-, ⟨c1, c2⟩, hs2⟩ := hs1.afterHash
          rw [show pnext (cm :: ts1) = (cm, ts1) from rfl]
          simp only []
          split
          · rename_i n ts2
            by_cases hn : (n.ty == TT.task && !cm.val.isEmpty) = true
            · rw [if_pos hn]
              simp only [Bool.and_eq_true, beq_iff_eq, Bool.not_eq_true'] at hn
              obtain ⟨_, _, ⟨⟩, hs3⟩ := hs2.step hn.1
              refine (parseTask_spec hs3 ⟨c1, c2⟩).bind ⟨[cm, n], rfl⟩ (fun _ h => h.mono (List.suffix_cons t _))
                fun node ts3 k3 ⟨k1, k2, name, deps, outs, cmds, e⟩ => ?_
              subst e
              exact go k3 (.inl rfl) k2
                (hacc.push hst k1 (fun hd => by rw [Node.isDoclessTask, hn.2] at hd; cases hd) (.of_false rfl rfl))
            · rw [if_neg hn]
              refine go (List.suffix_cons cm _) (.inl rfl) hs2
                (hacc.push hst ⟨c1, c2⟩ (fun hd => by cases hd) ?_)
              rintro t' ts'' ⟨⟩
              refine ⟨fun hc htask => hn ?_, fun hh => by cases hh⟩
              have : cm.val.isEmpty = false := by simpa [Node.isNonEmptyComment] using hc
              simp [htask, this]
          · exact hs2.elim
      · -- an identifier: assignment
        rename_i hty
        have hst : Stmt t.ty := .inr (.inl hty)
        obtain ⟨hok, _, ⟨⟩, hs1⟩ := (hlm.top h hst).step hty
        exact (parseAssign_spec hok hs1).bind (List.suffix_refl ts) (fun _ h => h.mono (List.suffix_cons t ts))
          fun node ts1 k ⟨k1, k2, k3, m', k4, k5⟩ => go k k4 k5 (hacc.push hst k1 (fun hd => by rw [k2] at hd; cases hd) k3)
      · -- `task`
        rename_i hty
        have hst : Stmt t.ty := .inr (.inr hty)
        obtain ⟨_, _, ⟨⟩, hs1⟩ := (hlm.top h hst).step hty
        refine (parseTask_spec hs1 ⟨rfl, inp, [], by simp, trivial⟩).bind (List.suffix_refl ts) (fun _ h => h.mono (List.suffix_cons t ts))
          fun node ts1 k ⟨k1, k2, name, deps, outs, cmds, e⟩ => ?_
        subst e
        exact go k (.inl rfl) k2 (hacc.push hst k1 (fun _ => hty) (.of_false rfl rfl))
      · rename_i h2 _ _ _; exact rej_illegal h2

/-- **the parser on a lexer stream**: a well-formed tree, or the rejection of a token of the stream -/
theorem parseToks_spec {n : Nat} {toks : List Tok} (h : StrV inp .top toks) :
    ((parseToks n toks).fail = none → TreeOK inp (parseToks n toks).tree) ∧
    ∀ f, (parseToks n toks).fail = some f → Rej ⟨n⟩ toks f := by
  have := parseLoop_spec (c := ⟨n⟩) (toks.length + 1) toks [] .top (.inl rfl) h
    ⟨by simp, rfl, fun x rest hx => (by cases hx)⟩ (by omega)
  unfold parseToks
  generalize parseLoop ⟨n⟩ (toks.length + 1) toks [] = p at this ⊢
  obtain ⟨tree, f⟩ := p
  exact ⟨fun hf => by subst hf; exact this, fun f hf => by subst hf; exact this⟩

end Spok.PW
