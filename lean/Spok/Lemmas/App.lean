import Spok.App
/-! # `App.Run`'s chain of checks, read once (for Props/C09, C19, C20)

`action_guard`: what must have held for the action taken (`Action.Guard`); the decision tables compared by cases. -/
namespace Spok.App

theorem ite_some_eq_none {α} {c : Prop} [Decidable c] {a : α} {b : Option α} :
    (if c then some a else b) = none ↔ ¬ c ∧ b = none := by
  split <;> simp [*]

theorem prepare_none_iff (o : Options) (w : World) : prepare o w = none ↔ w.ok o = true := by
  simp only [prepare, World.ok, ite_some_eq_none, and_assoc, Bool.and_eq_true, Bool.or_eq_true, Bool.not_eq_true',
    Bool.not_eq_false, and_true]
  cases o.spokfileGiven <;> simp

/-- what must have been the case for `App.Run` to take an action: `--init` and the flag clash out of the way and the
    spokfile prepared, the flags of the `switch` that come before it off and its own on -/
def Action.Guard (o : Options) (args : List String) (w : World) : Action → Prop
  | .initialise => o.init = true ∧ w.cwdSpokfile = false
  | .error _ => True
  | a => o.init = false ∧ w.ok o = true ∧
    match a with
    | .fmt => o.fmt = true
    | .vars => o.fmt = false ∧ o.vars = true
    | .cleanTask => o.fmt = false ∧ o.vars = false ∧ o.clean = true ∧ w.hasClean = true
    | .clean => o.fmt = false ∧ o.vars = false ∧ o.clean = true ∧ w.hasClean = false
    | .show => o.fmt = false ∧ o.vars = false ∧ o.clean = false ∧ o.show = true
    | .runDefault => o.fmt = false ∧ o.vars = false ∧ o.clean = false ∧ o.show = false ∧ args = [] ∧ w.hasDefault = true
    | .list => o.fmt = false ∧ o.vars = false ∧ o.clean = false ∧ o.show = false ∧ args = [] ∧ w.hasDefault = false
    | .run ts => o.fmt = false ∧ o.vars = false ∧ o.clean = false ∧ o.show = false ∧ ts = args ∧ args ≠ []
    | _ => True  -- `.initialise`, `.error _`: taken above

theorem action_guard (o : Options) (args : List String) (w : World) : (action o args w).Guard o args w := by
  unfold action
  cases hi : o.init
  · cases hqd : (o.quiet && o.debug)
    · cases hp : prepare o w
      · have hw := (prepare_none_iff o w).1 hp
        unfold dispatch
        cases hf : o.fmt
        · cases hv : o.vars
          · cases hc : o.clean
            · cases hs : o.show
              · cases args with
                | nil => cases hd : w.hasDefault <;> simp [Action.Guard, *]
                | cons t ts => simp [Action.Guard, *]
              · simp [Action.Guard, *]
            · cases hcl : w.hasClean <;> simp [Action.Guard, *]
          · simp [Action.Guard, *]
        · simp [Action.Guard, *]
      · trivial
    · trivial
  · cases hc : w.cwdSpokfile
    · exact ⟨hi, hc⟩
    · trivial

/-- the table of writes against the table of what is allowed, action by action: only `--fmt` and `--init` carry a
    condition -/
theorem writes_allowed (a : Action) (w : World) (hf : a = .fmt → w.parses = true ∧ w.loads = true)
    (hi : a = .initialise → w.cwdSpokfile = false) : ∀ d ∈ writes a, d ∈ allowedWrites a w := by
  cases a with
  | fmt => simp [writes, allowedWrites, hf rfl]
  | initialise => simp [writes, allowedWrites, hi rfl]
  -- a run may also delete in the cache: its writes are the first two allowed ones
  | cleanTask | runDefault | run _ => exact fun d hd => List.mem_of_mem_take (i := 2) hd
  | _ => exact fun _ hd => hd

theorem World.ok_parses_loads {o : Options} {w : World} (h : w.ok o = true) : w.readable = true ∧ w.parses = true ∧ w.loads = true := by
  simp only [World.ok, Bool.and_eq_true] at h; exact ⟨h.1.1.2, h.1.2, h.2⟩

/-- the two tables (what an action writes, what the property allows it) agree on every action reached in the order of
    `App.Run`: `--fmt` is reached only after parse and load, `--init` writes only after the existence check -/
theorem frame_of_guard {o : Options} {args : List String} {w : World} {a : Action} (hg : a.Guard o args w) :
    ∀ d ∈ writes a, d ∈ allowedWrites a w := by
  apply writes_allowed
  · rintro rfl; exact (World.ok_parses_loads hg.2.1).2
  · rintro rfl; exact hg.2

theorem flags_of_guard {o : Options} {args : List String} {w : World} {a : Action} (hg : a.Guard o args w) :
    ∀ d ∈ writes a, permitted o w d = true := by
  cases a with
  | initialise => simp [writes, permitted, hg.1, hg.2]
  | fmt => simp [writes, permitted, hg.1, hg.2.2, World.ok_parses_loads hg.2.1]
  | clean => simp [writes, permitted, hg.1, hg.2.2.2.2.1]
  | cleanTask | runDefault | run _ => simp [writes, permitted]
  | _ => simp [writes]

/-! ## the three run actions are treated alike -/

theorem exitOf_of_isRun {a : Action} (h : a.isRun = true) (o : Options) (ran : Option (List Result)) :
    exitOf o a ran = match ran with | none => 1 | some rs => (outcome o rs).exit := by
  cases a <;> first | rfl | cases h

theorem stdoutOf_of_isRun {a : Action} (h : a.isRun = true) (o : Options) (tasks vars : List (String × String))
    (ran : Option (List Result)) :
    stdoutOf o a tasks vars ran = match ran with | none => .empty | some rs => runStdout o rs := by
  cases a <;> first | rfl | cases h

theorem writes_of_isRun {a : Action} (h : a.isRun = true) : writes a = [⟨.cache, .create⟩, ⟨.cache, .modify⟩] := by
  cases a <;> first | rfl | cases h

theorem not_ok_iff (r : Result) : r.ok = false ↔ ∃ c ∈ r.cmds, c.status ≠ 0 := by
  simp [Result.ok, CmdResult.ok, List.all_eq_false]

theorem ok_eq_false_iff (r : Result) : r.ok = false ↔ ∃ c, r.cmds.find? (fun c => !c.ok) = some c := by
  rw [← Option.isSome_iff_exists, List.find?_isSome]
  simp [Result.ok, List.all_eq_false]

/-- the loop of `runTasks` is two searches: the first task that is not ok, and in it the first command that is not -/
theorem firstFailing_eq (rs : List Result) :
    firstFailing rs = (rs.find? fun r => !r.ok).bind fun r => (r.cmds.find? fun c => !c.ok).map (r.task, ·) := by
  induction rs with
  | nil => rfl
  | cons r rs ih =>
    rw [firstFailing, List.find?_cons]
    cases hok : r.ok with
    | true => simpa using ih
    | false =>
      obtain ⟨c, hc⟩ := (ok_eq_false_iff r).1 hok
      simp [hc]

theorem firstFailing_spec (rs : List Result) (h : ∃ r ∈ rs, ∃ c ∈ r.cmds, c.status ≠ 0) :
    ∃ pre r post c, rs = pre ++ r :: post ∧ (∀ p ∈ pre, p.ok = true) ∧ r.ok = false ∧
      c ∈ r.cmds ∧ c.status ≠ 0 ∧ firstFailing rs = some (r.task, c) := by
  obtain ⟨r₀, hr₀, hc₀⟩ := h
  obtain ⟨r, hr⟩ := Option.isSome_iff_exists.1
    (List.find?_isSome.2 ⟨r₀, hr₀, by simp [(not_ok_iff r₀).2 hc₀]⟩ : (rs.find? fun r => !r.ok).isSome)
  obtain ⟨hnok, pre, post, he, hpre⟩ := List.find?_eq_some_iff_append.1 hr
  have hnok : r.ok = false := by simpa using hnok
  obtain ⟨c, hc⟩ := (ok_eq_false_iff r).1 hnok
  refine ⟨pre, r, post, c, he, fun p hp => by simpa using hpre p hp, hnok, List.mem_of_find?_eq_some hc, ?_, ?_⟩
  · simpa [CmdResult.ok] using List.find?_some hc
  · simp [firstFailing_eq, hr, hc]

theorem firstFailing_none (rs : List Result) (hok : ∀ r ∈ rs, ∀ c ∈ r.cmds, c.status = 0) : firstFailing rs = none := by
  rw [firstFailing_eq, List.find?_eq_none.2, Option.bind_none]
  intro r hr
  simp only [Bool.not_eq_true, Bool.not_eq_false', Result.ok, List.all_eq_true, CmdResult.ok, beq_iff_eq]
  exact hok r hr

theorem optMap_map {α β γ} (f : β → Option γ) (g : α → β) (h : α → γ) (hf : ∀ x, f (g x) = some (h x)) (xs : List α) :
    optMap f (xs.map g) = some (xs.map h) := by
  induction xs with
  | nil => rfl
  | cons x xs ih => simp [optMap, hf, ih]

theorem decodeCmd_cmdJson (c : CmdResult) : decodeCmd (cmdJson c) = some c := by
  simp [decodeCmd, cmdJson, field]

theorem decodeResult_resultJson (r : Result) : decodeResult (resultJson r) = some r := by
  obtain ⟨t, cs, s⟩ := r
  cases cs with
  | nil => simp [decodeResult, resultJson, field]
  | cons c cs =>
    have := optMap_map decodeCmd cmdJson id decodeCmd_cmdJson (c :: cs)
    simp only [List.map_id_fun, id_eq, List.map_cons] at this
    simp [decodeResult, resultJson, field, this]

theorem byName_trans (a b c : String × String) : byName a b = true → byName b c = true → byName a c = true := by
  simp only [byName, decide_eq_true_eq]; exact String.le_trans

theorem byName_total (a b : String × String) : (byName a b || byName b a) = true := by
  simp only [byName, Bool.or_eq_true, decide_eq_true_eq]; exact String.le_total a.1 b.1

end Spok.App
