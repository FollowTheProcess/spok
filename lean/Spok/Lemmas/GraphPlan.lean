import Spok.Lemmas.GraphClosure
import Spok.Lemmas.GraphKahn
/-! # `plan` = load, closure, sort, length test: complete case analysis, for every oracle (`plan_spec`) -/
namespace Spok.Graph

variable {α : Type} [DecidableEq α]

theorem wf_of_selected {ts : Table α} {req : List α} {g : Graph α} (hs : Selected ts req g) : WF g.verts g.edges where
  vnodup := hs.vnodup
  enodup := hs.enodup
  inV := by
    intro p c hpc
    have := (hs.edges_iff p c).mp hpc
    exact ⟨(hs.verts_iff p).mpr (.dep ((hs.verts_iff c).mp this.1) this.2), this.1⟩

theorem reach_nil {ts : Table α} {n : α} : ¬ Reach ts [] n := by
  intro h
  induction h with
  | req h => cases h
  | dep _ _ ih => exact ih

theorem depPath_of_edgePath {ts : Table α} {req : List α} {g : Graph α} (hs : Selected ts req g) {a b : α}
    (h : Relation.TransGen (fun p c => (p, c) ∈ g.edges) a b) : Relation.TransGen (DependsOn ts) a b := by
  induction h with
  | single h => exact .single ((hs.edges_iff _ _).mp h).2
  | tail _ h ih => exact .tail ih ((hs.edges_iff _ _).mp h).2

theorem edgePath_of_depPath {ts : Table α} {req : List α} {g : Graph α} (hs : Selected ts req g) {a b : α}
    (h : Relation.TransGen (DependsOn ts) a b) : b ∈ g.verts → Relation.TransGen (fun p c => (p, c) ∈ g.edges) a b := by
  induction h with
  | single h => exact fun hb => .single ((hs.edges_iff _ _).mpr ⟨hb, h⟩)
  | tail _ h ih =>
    intro hc
    have he := (hs.edges_iff _ _).mpr ⟨hc, h⟩
    exact .tail (ih ((wf_of_selected hs).inV _ _ he).1) he

theorem sort_of_no_verts {g : Graph α} (o : Oracle α) (h : g.verts = []) : sort o g = .error .cycle := by
  have : initQueue o g = [] := by
    unfold initQueue
    rw [h, (reorder_perm o.init []).eq_nil]
    rfl
  simp [sort, this]

theorem plan_eq (o : Oracle α) (ts : Table α) (req : List α) :
    plan o ts req = if (names ts).Nodup then
      match closure ts req with
      | .error e => .error e
      | .ok g =>
        match sort o g with
        | .ok order => if order.length ≠ g.verts.length then .error .cycle else .ok order
        | .error e => .error e
        | .spin => .spin
      else .error .duplicate := by
  unfold plan
  rw [load_eq]
  by_cases h : (names ts).Nodup
  · simp only [if_pos h]; rfl
  · simp only [if_neg h]

inductive PlanSpec (ts : Table α) (req : List α) : Outcome (List α) → Prop
  | ok (order : List α) :
      (names ts).Nodup → (∀ n, Reach ts req n → (lookup ts n).isSome) → ¬ Cyclic ts req → req ≠ [] →
      order.Nodup → (∀ n, n ∈ order ↔ Reach ts req n) →
      (∀ a b, b ∈ order → a ∈ deps ts b → order.idxOf a < order.idxOf b) → PlanSpec ts req (.ok order)
  | duplicate : ¬ (names ts).Nodup → PlanSpec ts req (.error .duplicate)
  | undefined (e : Err) : (names ts).Nodup → (e = .noSuchTask ∨ e = .noSuchDependency) →
      (∃ n, Reach ts req n ∧ lookup ts n = none) → PlanSpec ts req (.error e)
  | cycle : (names ts).Nodup → (∀ n, Reach ts req n → (lookup ts n).isSome) → Cyclic ts req → PlanSpec ts req (.error .cycle)
  | empty : (names ts).Nodup → req = [] → PlanSpec ts req (.error .cycle)

theorem plan_spec (o : Oracle α) (ts : Table α) (req : List α) : PlanSpec ts req (plan o ts req) := by
  rw [plan_eq]
  by_cases hnd : (names ts).Nodup
  case neg => rw [if_neg hnd]; exact .duplicate hnd
  rw [if_pos hnd]
  cases hc : closure ts req with
  | error e =>
    have := closure_error hc
    exact .undefined e hnd this.1 this.2
  | ok g =>
    have hs := closure_ok hc
    have hwf := wf_of_selected hs
    have hdef : ∀ n, Reach ts req n → (lookup ts n).isSome := fun n hn => hs.defined n ((hs.verts_iff n).mpr hn)
    have cyc_of : ∀ v ∈ g.verts, Relation.TransGen (fun p c => (p, c) ∈ g.edges) v v → Cyclic ts req :=
      fun v hv hcyc => ⟨v, (hs.verts_iff v).mp hv, depPath_of_edgePath hs hcyc⟩
    simp only
    rcases sort_spec hwf o with ⟨r, hr, hseq, hstuck⟩ | ⟨herr, hstuck⟩
    · rw [hr]
      by_cases hlen : r.length = g.verts.length
      · -- every vertex was emitted
        simp only [hlen, ne_eq, not_true_eq_false, if_false]
        have hcov := covers_of_length hseq.nodup hseq.subset (Nat.le_of_eq hlen.symm)
        have hmem : ∀ n, n ∈ r ↔ Reach ts req n := fun n =>
          ⟨fun h => (hs.verts_iff n).mp (hseq.subset n h), fun h => hcov n ((hs.verts_iff n).mpr h)⟩
        refine .ok r hnd hdef ?_ ?_ hseq.nodup hmem ?_
        · rintro ⟨n, hn, hcyc⟩
          have hnv := (hs.verts_iff n).mpr hn
          exact hseq.not_on_cycle (hcov n hnv) (edgePath_of_depPath hs hcyc hnv)
        · rintro rfl
          have : g.verts = [] := by
            cases hv : g.verts with
            | nil => rfl
            | cons v vs =>
              exact absurd ((hs.verts_iff v).mp (by simp [hv])) reach_nil
          rw [sort_of_no_verts o this] at hr
          cases hr
        · intro a b hb hab
          exact hseq.parents_before a b ((hs.edges_iff a b).mpr ⟨hseq.subset b hb, hab⟩) hb
      · -- some vertex was never emitted: it hangs below a cycle
        simp only [ne_eq, hlen, not_false_eq_true, if_true]
        rcases hstuck.covers_or_cycle (fun p c h => (hwf.inV p c h).1) with hcov | ⟨v, hv, _, hcyc⟩
        · exfalso
          apply hlen
          apply Nat.le_antisymm
          · exact hseq.nodup.length_le_of_subset (fun x hx => hseq.subset x hx)
          · exact hs.vnodup.length_le_of_subset (fun x hx => hcov x hx)
        · exact .cycle hnd hdef (cyc_of v hv hcyc)
    · rw [herr]
      by_cases hreq : req = []
      · exact .empty hnd hreq
      · rcases hstuck.covers_or_cycle (fun p c h => (hwf.inV p c h).1) with hcov | ⟨v, hv, _, hcyc⟩
        · exfalso
          cases req with
          | nil => exact hreq rfl
          | cons r rs =>
            have := hcov r ((hs.verts_iff r).mpr (.req List.mem_cons_self))
            cases this
        · exact .cycle hnd hdef (cyc_of v hv hcyc)

/-! ## consequences in the shape the property theorems use -/

theorem plan_ne_spin (o : Oracle α) (ts : Table α) (req : List α) : plan o ts req ≠ .spin := by
  intro h
  have := plan_spec o ts req
  rw [h] at this
  cases this

theorem plan_cases (o : Oracle α) (ts : Table α) (req : List α) :
    (∃ order, plan o ts req = .ok order) ∨ ∃ e, plan o ts req = .error e := by
  cases hp : plan o ts req with
  | ok order => exact .inl ⟨order, rfl⟩
  | error e => exact .inr ⟨e, rfl⟩
  | spin => exact absurd hp (plan_ne_spin o ts req)

theorem plan_ok {o : Oracle α} {ts : Table α} {req order : List α} (h : plan o ts req = .ok order) :
    (names ts).Nodup ∧ (∀ n, Reach ts req n → (lookup ts n).isSome) ∧ ¬ Cyclic ts req ∧ req ≠ [] ∧
    order.Nodup ∧ (∀ n, n ∈ order ↔ Reach ts req n) ∧
    (∀ a b, b ∈ order → a ∈ deps ts b → order.idxOf a < order.idxOf b) := by
  have := plan_spec o ts req
  rw [h] at this
  cases this with
  | ok _ h1 h2 h3 h4 h5 h6 h7 => exact ⟨h1, h2, h3, h4, h5, h6, h7⟩

theorem erroneous_of_plan_error {o : Oracle α} {ts : Table α} {req : List α} {e : Err}
    (h : plan o ts req = .error e) : req = [] ∨ Erroneous ts req := by
  have := plan_spec o ts req
  rw [h] at this
  cases this with
  | duplicate hd => exact Or.inr (Or.inl hd)
  | undefined _ _ _ hu => exact Or.inr (Or.inr (Or.inl hu))
  | cycle _ _ hc => exact Or.inr (Or.inr (Or.inr hc))
  | empty _ hr => exact Or.inl hr

theorem not_erroneous_of_plan_ok {o : Oracle α} {ts : Table α} {req : List α} {order : List α}
    (h : plan o ts req = .ok order) : ¬ Erroneous ts req := by
  obtain ⟨hnd, hdef, hcyc, _⟩ := plan_ok h
  rintro (h1 | ⟨n, hn, hu⟩ | h3)
  · exact h1 hnd
  · have := hdef n hn
    rw [show lookup ts n = none from hu] at this; cases this
  · exact hcyc h3

theorem erroneous_nil_iff {ts : Table α} : Erroneous ts [] ↔ ¬ (names ts).Nodup := by
  constructor
  · rintro (h | ⟨n, hn, _⟩ | ⟨n, hn, _⟩)
    · exact h
    · exact absurd hn reach_nil
    · exact absurd hn reach_nil
  · exact Or.inl

omit [DecidableEq α] in
theorem runLoop_calls (fails : α → Bool) (order : List α) (res : List (α × Bool)) :
    (runLoop fails order res).map Prod.fst = res.map Prod.fst ++ order := by
  induction order generalizing res with
  | nil => simp [runLoop]
  | cons t rest ih => simp [runLoop, ih]

end Spok.Graph
