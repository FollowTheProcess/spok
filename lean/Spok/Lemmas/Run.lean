import Spok.Run
/-! # Invariants of the run machine (helper lemmas for Props/C01 C02 C10 C14)

* `Moves`: `step` as a relation with a named case per branch; every proof about one micro-step goes by its cases.
* `Inv`  (soundness): every digest in memory or on disk is the digest of the files of the task's last success.
* `CInv` (completeness, crash-free): every last success on ≥ 1 file is recorded. -/
namespace Spok.Run

variable (digest : Items → Digest)

/-! ## `Moves`: the branches of `step`, by name -/

/-- One micro-step as a relation, with a constructor per branch of `step`: the tests that select the branch, and the
    state it makes.  The `noTask…` branches (a pc that speaks of a head task the todo list does not have) are in `step`
    because it is total: `CInv` is `False` there, and so is `InvPc` at the first two. -/
inductive Moves (s : St) : St → Prop
  | cacheAbsent : s.pc = .boot → s.disk = .missing → Moves s { s with pc := .initializing }
  | cacheUnparsable : s.pc = .boot → s.disk = .corrupt → Moves s { s with pc := .cacheError }
  | cacheLoaded (m) : s.pc = .boot → s.disk = .valid m → Moves s { s with pc := .decide, mem := m }
  | initTruncate : s.pc = .initializing → Moves s { s with pc := .initWriting, disk := .corrupt }
  | initWrite : s.pc = .initWriting → Moves s { s with pc := .decide, mem := fun _ => none, disk := .valid fun _ => none }
  | allDone : s.pc = .decide → s.todo = [] → Moves s { s with pc := .finished }
  | hashFails (t rest) : s.pc = .decide → s.todo = t :: rest → t.readable = false → Moves s { s with pc := .hashError }
  | skip (t rest) : s.pc = .decide → s.todo = t :: rest → t.readable = true → skipTest digest s t = true →
      Moves s { s with todo := rest, out := s.out ++ [(t.name, .skipped)] }
  | invalidate (t rest) : s.pc = .decide → s.todo = t :: rest → t.readable = true → skipTest digest s t = false →
      (s.mem t.name).isSome = true →
      Moves s { s with pc := .invalidating (s.mem t.name), mem := upd s.mem t.name none, disk := .corrupt }
  | uncached (t rest) : s.pc = .decide → s.todo = t :: rest → t.readable = true → skipTest digest s t = false →
      s.mem t.name = none → Moves s { s with pc := .invalidated none }
  | invalidateWrite (old) : s.pc = .invalidating old → Moves s { s with pc := .invalidated old, disk := .valid s.mem }
  | run (old t rest) : s.pc = .invalidated old → s.todo = t :: rest →
      Moves s { s with pc := .executed old, out := s.out ++ [(t.name, res t)],
                       last := if t.ok then upd s.last t.name (some t.inp.items) else s.last }
  | record (old t rest) : s.pc = .executed old → s.todo = t :: rest → (recorded digest t old).isSome = true →
      Moves s { s with pc := .committing, mem := upd s.mem t.name (recorded digest t old), disk := .corrupt }
  | nothingToRecord (old t rest) : s.pc = .executed old → s.todo = t :: rest → recorded digest t old = none →
      Moves s { s with pc := .decide, todo := rest }
  | commitWrite (t rest) : s.pc = .committing → s.todo = t :: rest →
      Moves s { s with pc := .decide, todo := rest, disk := .valid s.mem }
  | noTaskInvalidated (old) : s.pc = .invalidated old → s.todo = [] → Moves s { s with pc := .finished }
  | noTaskExecuted (old) : s.pc = .executed old → s.todo = [] → Moves s { s with pc := .finished }
  | noTaskCommitting : s.pc = .committing → s.todo = [] → Moves s { s with pc := .finished, disk := .valid s.mem }
  | halted : s.pc.terminal = true → Moves s s

/-- `step` read branch by branch, once; the invariants here and in `RunTrace` take their cases from `Moves` -/
theorem step_moves (s : St) : Moves digest s (step digest s) := by
  unfold step
  split <;> rename_i hpc
  · split <;> rename_i hd
    · exact .cacheAbsent hpc hd
    · exact .cacheUnparsable hpc hd
    · exact .cacheLoaded _ hpc hd
  · exact .initTruncate hpc
  · exact .initWrite hpc
  · split <;> rename_i hto
    · exact .allDone hpc hto
    · split <;> rename_i hr
      · exact .hashFails _ _ hpc hto hr
      · split <;> rename_i hs
        · exact .skip _ _ hpc hto (eq_true_of_ne_false hr) hs
        · split <;> rename_i hc
          · exact .invalidate _ _ hpc hto (eq_true_of_ne_false hr) (eq_false_of_ne_true hs) hc
          · exact .uncached _ _ hpc hto (eq_true_of_ne_false hr) (eq_false_of_ne_true hs) (by simpa using hc)
  · exact .invalidateWrite _ hpc
  · split <;> rename_i hto
    · exact .noTaskInvalidated _ hpc hto
    · exact .run _ _ _ hpc hto
  · split <;> rename_i hto
    · exact .noTaskExecuted _ hpc hto
    · split <;> rename_i hrec
      · exact .record _ _ _ hpc hto hrec
      · exact .nothingToRecord _ _ _ hpc hto (by simpa using hrec)
  · split <;> rename_i hto
    · exact .noTaskCommitting hpc hto
    · exact .commitWrite _ _ hpc hto
  all_goals exact .halted (by rw [hpc]; rfl)

/-! ## `Inv`: what is recorded is justified -/

/-- a recorded digest is the digest of the files of the last successful completion -/
def Just (last : Name → Option Items) (t : Name) (o : Option Digest) : Prop :=
  ∀ d, o = some d → ∃ i, last t = some i ∧ digest i = d

def InvMap (last : Name → Option Items) (m : Map) : Prop := ∀ t, Just digest last t (m t)

/-- what may be on disk: a justified map, nothing (and then nothing is remembered), or an unparsable file -/
def InvDisk (last : Name → Option Items) : Disk → Prop
  | .valid m => InvMap digest last m
  | .missing => ∀ t, last t = none
  | .corrupt => True

def InvPc (s : St) : Prop :=
  match s.pc, s.todo with
  | .boot, _ => InvDisk digest s.last s.disk
  | .initializing, _ => s.disk = .missing ∧ ∀ t, s.last t = none
  | .initWriting, _ => s.disk = .corrupt
  | .decide, _ => s.disk = .valid s.mem
  | .finished, _ => s.disk = .valid s.mem
  | .hashError, _ => s.disk = .valid s.mem
  | .cacheError, _ => s.disk = .corrupt
  | .committing, _ => s.disk = .corrupt
  | .invalidating old, t :: _ => s.disk = .corrupt ∧ s.mem t.name = none ∧ Just digest s.last t.name old
  | .invalidated old, t :: _ => s.disk = .valid s.mem ∧ s.mem t.name = none ∧ Just digest s.last t.name old
  | .executed old, t :: _ => s.disk = .valid s.mem ∧ s.mem t.name = none ∧
        (t.ok = true → s.last t.name = some t.inp.items) ∧ (t.ok = false → Just digest s.last t.name old)
  | .invalidating _, [] => False
  | .invalidated _, [] => False
  | .executed _, [] => False

def Inv (s : St) : Prop := InvMap digest s.last s.mem ∧ InvPc digest s

theorem invMap_upd {last : Name → Option Items} {m : Map} (t : Name) (v : Option Digest)
    (h : InvMap digest last m) (hv : Just digest last t v) : InvMap digest last (upd m t v) := by
  intro u d hu
  unfold upd at hu
  split at hu
  · rename_i e; subst e; exact hv d hu
  · exact h u d hu

theorem just_none (last : Name → Option Items) (t : Name) : Just digest last t none := by
  intro d hx; cases hx

/-- a successful completion of `t` keeps every map justified, provided `t`'s own entry is empty -/
theorem invMap_last_upd {last : Name → Option Items} {m : Map} (t : Name) (i : Items)
    (h : InvMap digest last m) (hnone : m t = none) : InvMap digest (upd last t (some i)) m := by
  intro u d hu
  by_cases e : u = t
  · subst e; rw [hnone] at hu; cases hu
  · obtain ⟨j, hj, hdj⟩ := h u d hu
    exact ⟨j, by simp [upd, e, hj], hdj⟩

theorem recorded_cases {P : Option Digest → Prop} (t : TaskIn) (old : Option Digest)
    (hok : t.ok = true → P (if t.inp.n > 0 then some (digest t.inp.items) else none))
    (hfail : t.ok = false → P old) : P (recorded digest t old) := by
  unfold recorded
  cases h : t.ok
  · simpa using hfail h
  · simpa using hok h

theorem just_recorded {last : Name → Option Items} (t : TaskIn) (old : Option Digest)
    (hok : t.ok = true → last t.name = some t.inp.items) (hfail : t.ok = false → Just digest last t.name old) :
    Just digest last t.name (recorded digest t old) := by
  refine recorded_cases digest t old (fun h => ?_) hfail
  split
  · intro d hx; cases hx; exact ⟨t.inp.items, hok h, rfl⟩
  · exact just_none digest _ _

theorem step_inv (s : St) (h : Inv digest s) : Inv digest (step digest s) := by
  have mv := step_moves digest s
  generalize step digest s = s' at mv ⊢
  -- with `s` taken apart the tests of a branch substitute (`subst hpc hto`), and the rows of `InvPc` before and after the
  -- step compute: each case names what the new row is made of
  obtain ⟨force, todo, pc, mem, disk, last, out⟩ := s
  obtain ⟨hm, hp⟩ := h
  cases mv with
  | cacheAbsent hpc hd => subst hpc hd; exact ⟨hm, rfl, hp⟩
  | cacheUnparsable hpc hd => subst hpc hd; exact ⟨hm, rfl⟩
  | cacheLoaded m hpc hd => subst hpc hd; exact ⟨hp, rfl⟩
  | initTruncate | commitWrite | noTaskCommitting => exact ⟨hm, rfl⟩
  | initWrite => exact ⟨fun t => just_none digest _ _, rfl⟩
  | allDone hpc | hashFails _ _ hpc | skip _ _ hpc => subst hpc; exact ⟨hm, hp⟩
  | invalidate t _ _ hto =>
    subst hto
    exact ⟨invMap_upd digest _ _ hm (just_none digest _ _), rfl, by simp [upd], hm t.name⟩
  | uncached t _ hpc hto _ _ hnone => subst hpc hto; exact ⟨hm, hp, hnone, just_none digest _ _⟩
  | invalidateWrite old hpc =>
    subst hpc
    cases todo with
    | nil => exact hp.elim
    | cons t rest => exact ⟨hm, rfl, hp.2⟩
  | run old t _ hpc hto =>
    subst hpc hto
    obtain ⟨hdk, hnone, hold⟩ := hp
    simp only [Inv, InvPc]
    cases t.ok with
    | true => exact ⟨invMap_last_upd digest _ _ hm hnone, hdk, hnone, fun _ => by simp [upd], nofun⟩
    | false => exact ⟨hm, hdk, hnone, nofun, fun _ => hold⟩
  | record old t _ hpc hto =>
    subst hpc hto
    obtain ⟨_, _, hokc, hfail⟩ := hp
    exact ⟨invMap_upd digest _ _ hm (just_recorded digest t old hokc hfail), rfl⟩
  | nothingToRecord old t _ hpc hto => subst hpc hto; exact ⟨hm, hp.1⟩
  | noTaskInvalidated _ hpc hto | noTaskExecuted _ hpc hto => subst hpc hto; exact hp.elim
  | halted => exact ⟨hm, hp⟩

/-- what a skip establishes: the files of the last success have the digest of the current ones -/
theorem skip_digest (s : St) (h : Inv digest s) (t : TaskIn) (hskip : skipTest digest s t = true) :
    ∃ i, s.last t.name = some i ∧ digest i = digest t.inp.items := by
  simp [skipTest] at hskip
  exact h.1 t.name _ hskip.2

/-- Whenever the machine skips, the files of the last success are `R`-related to the current ones, or `C` holds —
    for a digest that determines its argument up to `R`, or else `C`.  (`R := Eq`, `C :=` a collision: `skip_sound`;
    `R := List.Perm`, `C :=` a SHA-256 collision: `Props/C01Sha`.) -/
theorem skip_sound_upto (R : Items → Items → Prop) (C : Prop) (hR : ∀ i j, digest i = digest j → R i j ∨ C)
    (s : St) (h : Inv digest s) (t : TaskIn) (hskip : skipTest digest s t = true) :
    (∃ its, s.last t.name = some its ∧ R its t.inp.items) ∨ C :=
  let ⟨i, hi, hd⟩ := skip_digest digest s h t hskip
  (hR i _ hd).imp_left fun hr => ⟨i, hi, hr⟩

/-- a collision of the run engine's abstract `digest` (`skip_sound` and the statements of Props/C01 C10 C14 spell it
    out); `Hash.Collision sha` is a collision of the hash function itself -/
def Collision : Prop := ∃ i j : Items, i ≠ j ∧ digest i = digest j

theorem skip_sound (s : St) (h : Inv digest s) (t : TaskIn)
    (hskip : skipTest digest s t = true) :
    s.last t.name = some t.inp.items ∨ ∃ i j, i ≠ j ∧ digest i = digest j :=
  (skip_sound_upto digest Eq _ (fun i j h => (Classical.em (i = j)).imp_right fun e => ⟨i, j, e, h⟩) s h t hskip).imp_left
    fun ⟨_, hl, e⟩ => e ▸ hl

theorem force_never_skips (s : St) (t : TaskIn) (hf : s.force = true) : skipTest digest s t = false := by
  simp [skipTest, hf]

/-- the on-disk state is always corrupt, or justified: what a kill at this point leaves behind -/
theorem inv_disk (s : St) (h : Inv digest s) : InvDisk digest s.last s.disk := by
  obtain ⟨hm, hp⟩ := h
  -- every row of `InvPc` gives the disk as the written-out memory, as unparsable, or is the claim itself
  have valid : s.disk = .valid s.mem → InvDisk digest s.last s.disk := fun e => e ▸ hm
  have corrupt : s.disk = .corrupt → InvDisk digest s.last s.disk := fun e => e ▸ trivial
  unfold InvPc at hp
  split at hp <;> first
    | exact hp | exact valid hp | exact corrupt hp | exact valid hp.1 | exact corrupt hp.1 | exact hp.1 ▸ hp.2
    | exact hp.elim

/-! ## `CInv`: what succeeded on ≥ 1 file is recorded (between kills) -/

/-- the converse of `Just`: a last success on at least one file is recorded with its digest -/
def CJust (last : Name → Option Items) (t : Name) (o : Option Digest) : Prop :=
  ∀ i, last t = some i → i ≠ [] → o = some (digest i)

def CMap (last : Name → Option Items) (m : Map) : Prop := ∀ t, CJust digest last t (m t)

def CMapExcept (last : Name → Option Items) (m : Map) (t : Name) : Prop :=
  ∀ u, u ≠ t → CJust digest last u (m u)

def CDisk (last : Name → Option Items) : Disk → Prop
  | .valid m => CMap digest last m
  | .missing => ∀ t, last t = none
  | .corrupt => False

/-- the head task is not up to date in the sense of C02 (or the run is forced) -/
def Stale (s : St) (t : TaskIn) : Prop :=
  ¬ (s.force = false ∧ s.last t.name = some t.inp.items ∧ t.inp.items ≠ [])

def CInv (s : St) : Prop :=
  match s.pc, s.todo with
  | .boot, _ => CDisk digest s.last s.disk
  | .initializing, _ => ∀ t, s.last t = none
  | .initWriting, _ => ∀ t, s.last t = none
  | .decide, _ => s.disk = .valid s.mem ∧ CMap digest s.last s.mem
  | .finished, _ => s.disk = .valid s.mem ∧ CMap digest s.last s.mem
  | .hashError, _ => s.disk = .valid s.mem ∧ CMap digest s.last s.mem
  | .cacheError, _ => False
  | .invalidating old, t :: _ => CMapExcept digest s.last s.mem t.name ∧ s.mem t.name = none ∧
        CJust digest s.last t.name old ∧ Stale s t
  | .invalidated old, t :: _ => s.disk = .valid s.mem ∧ CMapExcept digest s.last s.mem t.name ∧ s.mem t.name = none ∧
        CJust digest s.last t.name old ∧ Stale s t
  | .executed old, t :: _ => s.disk = .valid s.mem ∧ CMapExcept digest s.last s.mem t.name ∧ s.mem t.name = none ∧
        (t.ok = true → s.last t.name = some t.inp.items) ∧ (t.ok = false → CJust digest s.last t.name old)
  | .committing, _ :: _ => CMap digest s.last s.mem
  | .invalidating _, [] => False
  | .invalidated _, [] => False
  | .executed _, [] => False
  | .committing, [] => False

theorem Inputs.n_pos {i : Inputs} (h : i.items ≠ []) : i.n > 0 := by
  unfold Inputs.n
  cases hl : i.items with
  | nil => exact absurd hl h
  | cons a l => simp; omega

theorem cjust_recorded {last : Name → Option Items} (t : TaskIn) (old : Option Digest)
    (hok : t.ok = true → last t.name = some t.inp.items) (hfail : t.ok = false → CJust digest last t.name old) :
    CJust digest last t.name (recorded digest t old) := by
  refine recorded_cases digest t old (fun h i hi hne => ?_) hfail
  rw [hok h] at hi
  cases hi
  simp [Inputs.n_pos hne]

theorem stale_of_noskip (s : St) (t : TaskIn) (hc : CMap digest s.last s.mem)
    (hns : skipTest digest s t = false) : Stale s t := by
  intro ⟨hf, hl, hne⟩
  have hm := hc t.name _ hl hne
  simp [skipTest, hf, Inputs.n_pos hne, hm] at hns

theorem cmap_of_except {last : Name → Option Items} {m : Map} {t : Name} (v : Option Digest)
    (h : CMapExcept digest last m t) (hv : CJust digest last t v) : CMap digest last (upd m t v) := by
  intro u
  by_cases e : u = t
  · subst e; simpa [upd] using hv
  · simpa [upd, e] using h u e

theorem except_of_cmap {last : Name → Option Items} {m : Map} (t : Name) (v : Option Digest)
    (h : CMap digest last m) : CMapExcept digest last (upd m t v) t := by
  intro u e
  simpa [upd, e] using h u

theorem except_last_upd {last : Name → Option Items} {m : Map} (t : Name) (v : Option Items)
    (h : CMapExcept digest last m t) : CMapExcept digest (upd last t v) m t := by
  intro u e i hi
  simp [upd, e] at hi
  exact h u e i hi

theorem step_cinv (s : St) (h : CInv digest s) : CInv digest (step digest s) := by
  have mv := step_moves digest s
  generalize step digest s = s' at mv ⊢
  obtain ⟨force, todo, pc, mem, disk, last, out⟩ := s
  cases mv with
  | cacheAbsent hpc hd => subst hpc hd; exact h
  | cacheUnparsable hpc hd => subst hpc hd; exact h.elim
  | cacheLoaded m hpc hd => subst hpc hd; exact ⟨rfl, h⟩
  | initTruncate hpc => subst hpc; exact h
  | initWrite hpc => subst hpc; exact ⟨rfl, fun t i hi => by rw [h t] at hi; cases hi⟩
  | allDone hpc | hashFails _ _ hpc | skip _ _ hpc => subst hpc; exact h
  | invalidate t _ hpc hto _ hns =>
    subst hpc hto
    -- `Stale` is not needed to keep `CInv`: it travels to `.invalidated`, where `step_c02` reads off it that the task
    -- about to be run was not up to date
    have hst := stale_of_noskip digest _ t h.2 hns
    exact ⟨except_of_cmap digest _ _ h.2, by simp [upd], h.2 t.name, hst⟩
  | uncached t _ hpc hto _ hns hnone =>
    subst hpc hto
    have hst := stale_of_noskip digest _ t h.2 hns
    exact ⟨h.1, fun u _ => h.2 u, hnone, hnone ▸ h.2 t.name, hst⟩
  | invalidateWrite old hpc =>
    subst hpc
    cases todo with
    | nil => exact h.elim
    | cons t rest => exact ⟨rfl, h⟩
  | run old t _ hpc hto =>
    subst hpc hto
    obtain ⟨hdk, hex, hnone, hold, _⟩ := h
    simp only [CInv]
    cases t.ok with
    | true => exact ⟨hdk, except_last_upd digest _ _ hex, hnone, fun _ => by simp [upd], nofun⟩
    | false => exact ⟨hdk, hex, hnone, nofun, fun _ => hold⟩
  | record old t _ hpc hto =>
    subst hpc hto
    obtain ⟨_, hex, _, hokc, hfail⟩ := h
    -- `.committing` (like `.invalidating`) has no disk conjunct: the file is truncated there, which `CDisk` excludes;
    -- the next step writes `s.mem`
    exact cmap_of_except digest _ hex (cjust_recorded digest t old hokc hfail)
  | nothingToRecord old t _ hpc hto hrec =>
    subst hpc hto
    obtain ⟨hdk, hex, hnone, hokc, hfail⟩ := h
    refine ⟨hdk, fun u => ?_⟩
    by_cases e : u = t.name
    · subst e; rw [hnone, ← hrec]; exact cjust_recorded digest t old hokc hfail
    · exact hex u e
  | commitWrite t _ hpc hto => subst hpc hto; exact ⟨rfl, h⟩
  | noTaskInvalidated _ hpc hto | noTaskExecuted _ hpc hto | noTaskCommitting hpc hto => subst hpc hto; exact h.elim
  | halted => exact h

/-- completeness up to `R`: between kills, an unforced task whose last success was on files `R`-related to the current
    (≥ 1) ones — where `R`-related inputs have equal digests — is skipped -/
theorem skip_complete_upto (R : Items → Items → Prop) (hR : ∀ i j, R i j → digest i = digest j)
    (s : St) (h : CInv digest s) (t : TaskIn) (hpc : s.pc = .decide) (hf : s.force = false)
    (its : Items) (hl : s.last t.name = some its) (hrel : R its t.inp.items) (hne : its ≠ []) (hn : t.inp.n > 0) :
    skipTest digest s t = true := by
  simp only [CInv, hpc] at h
  simp [skipTest, hf, hn, h.2 t.name its hl hne, hR _ _ hrel]

/-- what a crash-free invocation leaves on disk -/
theorem cinv_disk (s : St) (h : CInv digest s) (ht : s.pc.terminal = true) : CDisk digest s.last s.disk := by
  cases hpc : s.pc <;> simp [hpc, Pc.terminal] at ht <;> simp only [CInv, hpc] at h
  -- `finished` and `hashError` (at `cacheError` the invariant is `False`)
  all_goals exact h.1 ▸ h.2

end Spok.Run
