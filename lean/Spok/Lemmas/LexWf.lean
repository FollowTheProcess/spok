import Spok.Lemmas.Lines
/-! # The well-formedness invariant of the scanner (property C16): definitions, primitives, scanning loops

`Wf input l` ties the Go counters of a scanner state (`pos start line startLine`) to the zipper:
`pos` is the byte length of what has been read, `line` one plus its newlines, the token under
construction is the stretch `[start, pos)`, and the tokens emitted so far tile the input before `start`
(`TilesR`).  Every primitive and every scanning loop keeps it under its precondition.

`Spok.RunesOK` is declared here (every rune is `RuneGood`) and, with a weaker meaning, in `Lemmas/LexLine.lean`: no module can
import both. -/
namespace Spok

def RunesOK (rs : List Rune) : Prop := ∀ r ∈ rs, RuneGood r

theorem decodeAll_runesOK (bs : List UInt8) : RunesOK (decodeAll bs) := fun _ hr => runeGood_of_mem_decodeAll hr

/-- `TilesR before ts`: the tokens `ts` (in emission order) tile the stretch of input whose runes,
    *last one first*, are `before`: each token's text is a contiguous run of it, at the token's byte
    offset and line; between tokens (and before the first, and after the last) there is only white space;
    no token is an ERROR or EOF token. -/
inductive TilesR : List Rune → List Tok → Prop
  | nil : TilesR [] []
  | space {b : List Rune} {ts : List Tok} {r : Rune} : TilesR b ts → isSpace r = true → TilesR (r :: b) ts
  | tok {b : List Rune} {ts : List Tok} (t : Tok) : TilesR b ts → t.ty ≠ .error → t.ty ≠ .eof →
      t.pos = bytesLen b → t.line = 1 + nl b → TilesR (t.val.reverse ++ b) (ts ++ [t])

theorem TilesR.spaces {b : List Rune} {ts : List Tok} (h : TilesR b ts) :
    ∀ (ws : List Rune), (∀ r ∈ ws, isSpace r = true) → TilesR (ws ++ b) ts := by
  intro ws
  induction ws with
  | nil => intro _; exact h
  | cons w ws ih =>
    intro hws
    exact TilesR.space (ih (fun r hr => hws r (by simp [hr]))) (hws w (by simp))

structure Wf (input : List Rune) (l : L) : Prop where
  ok : RunesOK input
  zip : l.left.reverse ++ l.right = input
  pos : l.pos = bytesLen l.left
  line : l.line = 1 + nl l.left
  tok : ∃ before, l.left = l.tokRev ++ before ∧ l.start = bytesLen before ∧ l.startLine = 1 + nl before ∧
          TilesR before l.toks.toList

theorem Wf.good_right {input : List Rune} {l : L} (h : Wf input l) {r : Rune} (hr : r ∈ l.right) : RuneGood r :=
  h.ok r (by rw [← h.zip]; simp [hr])
theorem Wf.good_left {input : List Rune} {l : L} (h : Wf input l) {r : Rune} (hr : r ∈ l.left) : RuneGood r :=
  h.ok r (by rw [← h.zip]; simp [hr])

theorem Wf.init {rs : List Rune} (h : RunesOK rs) : Wf rs (L.init rs) :=
  ⟨h, by simp [L.init], by simp [L.init], by simp [L.init], ⟨[], by simp [L.init], by simp [L.init], by simp [L.init],
    by simpa [L.init] using TilesR.nil⟩⟩

theorem Wf.nl1 {input : List Rune} {l : L} (h : Wf input l) : NL1 l.right :=
  fun r hr hc => (h.good_right hr).w_eq_one (by omega)

theorem Wf.readsTo {input xs : List Rune} {l l' : L} (h : Wf input l) (r : l.ReadsTo xs l') : Wf input l' := by
  obtain ⟨before, e1, e2, e3, e4⟩ := h.tok
  refine ⟨h.ok, ?_, ?_, ?_, before, ?_, r.start.trans e2, r.startLine.trans e3, r.toks ▸ e4⟩
  · rw [r.left, ← h.zip, r.right]; simp
  · rw [r.pos, r.left, h.pos]; simp; omega
  · rw [r.line h.nl1, r.left, h.line]; simp; omega
  · rw [r.left, r.tokRev, e1]; simp

theorem bytesLen_eq_length {xs : List Rune} (h : ∀ r ∈ xs, r.w = 1) : bytesLen xs = xs.length := by
  induction xs with
  | nil => rfl
  | cons x xs ih =>
    simp only [bytesLen_cons, List.length_cons, h x (by simp), ih (fun r hr => h r (by simp [hr]))]; omega

theorem Wf.emit {input : List Rune} {l : L} (h : Wf input l) (ty : TT) (h1 : ty ≠ .error) (h2 : ty ≠ .eof) :
    Wf input (l.emit ty) := by
  obtain ⟨before, e1, e2, e3, e4⟩ := h.tok
  refine ⟨h.ok, h.zip, h.pos, h.line, ⟨l.left, by simp [L.emit], h.pos, h.line, ?_⟩⟩
  have := TilesR.tok ⟨ty, l.tokRev.reverse, l.start, l.startLine, 0⟩ e4 h1 h2 e2 e3
  simpa [L.emit, e1] using this

theorem Wf.discard {input : List Rune} {l : L} (h : Wf input l) (hws : ∀ r ∈ l.tokRev, isSpace r = true) :
    Wf input l.discard := by
  obtain ⟨before, e1, e2, e3, e4⟩ := h.tok
  refine ⟨h.ok, h.zip, h.pos, h.line, ⟨l.left, by simp [L.discard], h.pos, h.line, ?_⟩⟩
  have := e4.spaces l.tokRev hws
  simpa [L.discard, e1] using this

theorem Wf.discard_reads {input xs : List Rune} {l l' : L} (h : Wf input l) (hws : ∀ r ∈ l.tokRev, isSpace r = true)
    (r : l.ReadsTo xs l') (hx : ∀ x ∈ xs, isSpace x = true) : Wf input l'.discard := by
  refine (h.readsTo r).discard fun x hm => ?_
  rw [r.tokRev, List.mem_append, List.mem_reverse] at hm
  exact hm.elim (hx x) (hws x)

theorem Wf.absorb {input : List Rune} {l : L} (h : Wf input l) (s : List Nat) (hp : l.hasPrefix s = true)
    (hs : ∀ c ∈ s, c < 128 ∧ c ≠ NL) : Wf input (l.absorb s.length) := by
  obtain ⟨before, e1, e2, e3, e4⟩ := h.tok
  obtain ⟨hlen, hcp⟩ := L.cp_mem_of_hasPrefix hp
  have hw : bytesLen (l.right.take s.length) = s.length := by
    rw [bytesLen_eq_length, hlen]
    intro r hr
    exact (h.good_right (List.mem_of_mem_take hr)).w_eq_one (hs _ (hcp r hr)).1
  have hn : nl (l.right.take s.length) = 0 := nl_eq_zero (fun r hr => (hs _ (hcp r hr)).2)
  refine ⟨h.ok, ?_, ?_, ?_, ⟨before, ?_, e2, e3, e4⟩⟩
  · simp only [L.absorb, List.reverse_append, List.reverse_reverse, List.append_assoc, List.take_append_drop]
    exact h.zip
  · simp [L.absorb, hw, h.pos]; omega
  · simp [L.absorb, hn, h.line]
  · simp [L.absorb, e1]

theorem Wf.stepBack {input : List Rune} {l : L} (h : Wf input l) (c : Nat) (hl : l.lastIs c = true)
    (hc : c < 128) (hn : c ≠ NL) : Wf input l.stepBack := by
  obtain ⟨before, e1, e2, e3, e4⟩ := h.tok
  obtain ⟨x, ls, t, ts, hx, h2, h1, e⟩ := L.stepBack_of_lastIs hl
  have hw : x.w = 1 := (h.good_left (r := x) (by simp [h2])).w_eq_one (by omega)
  have hpos := h.pos; have hline := h.line; have hzip := h.zip
  rw [h2] at hpos hline hzip
  rw [h1, h2] at e1
  rw [e]
  refine ⟨h.ok, by simpa using hzip, ?_, ?_, before, (List.cons.inj e1).2, e2, e3, e4⟩
  · simp [hw] at hpos; simp; omega
  · simpa [show ¬ x.cp = NL by omega] using hline

/-- the tokens emitted so far tile some prefix of the input (what is left of `Wf` when the scanner state
    itself is no longer trusted: on the way to an ERROR token) -/
def TilesOK (input : List Rune) (toks : Array Tok) : Prop :=
  ∃ b rest, b.reverse ++ rest = input ∧ TilesR b toks.toList

theorem Wf.tilesOK {input : List Rune} {l : L} (h : Wf input l) : TilesOK input l.toks := by
  obtain ⟨before, e1, e2, e3, e4⟩ := h.tok
  refine ⟨before, l.tokRev.reverse ++ l.right, ?_, e4⟩
  rw [← h.zip, e1]; simp

theorem Wf.skipWs {input : List Rune} {l : L} (h : Wf input l) (hws : ∀ r ∈ l.tokRev, isSpace r = true) :
    Wf input (skipWs l) := by
  obtain ⟨m, r, e⟩ := skipWs_reads l
  exact e ▸ h.discard_reads hws r fun _ => of_mem_takeWhile

theorem Wf.scanIdent {input : List Rune} {l : L} (h : Wf input l) : Wf input (scanIdent l) :=
  h.readsTo (scanIdent_reads l)

theorem Wf.scanComment {input : List Rune} {l : L} (h : Wf input l) : Wf input (scanComment l) :=
  h.readsTo (scanComment_reads l)

theorem Wf.scanString {input : List Rune} {l l' : L} (h : Wf input l) (hs : scanString l = .ok l') : Wf input l' :=
  let ⟨_, _, r⟩ := (scanString_reads l).1 l' hs; h.readsTo r

theorem Wf.stripCR {input : List Rune} {l : L} (h : Wf input l) : Wf input (stripCR l) :=
  (stripCR_rule h fun _ hc hm => hm.stepBack CR hc (by omega) (by omega)).1

end Spok
