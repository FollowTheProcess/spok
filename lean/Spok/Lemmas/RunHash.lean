import Spok.Lemmas.RunHist
import Spok.Lemmas.Hash
/-! # Composition of the run engine with the hash engine (helper lemmas for Props/C01Sha)

The run machine (`Spok.Run`) is parametrised by an abstract `digest : Items → Digest`, `Items = List (Nat × Nat)` being
(file id, content id) pairs.  Here the abstract digest is instantiated with the model of the real hasher
(`Spok.Hash.digest sha`, SHA-256 a parameter):

* `concrete pathOf contentOf items` reads an abstract input list as the list of regular files the hasher is handed,
  for any two injective namings `pathOf : Nat → Path`, `contentOf : Nat → Bytes` (`pathU`, `contentU`: a concrete pair);
* `code` turns the hasher's result into the run model's `Digest = Nat`, injectively;
* `digestSha sha pathOf contentOf items = code (Hash.digest sha (concrete … items))`.

`digestSha` decides its argument up to `List.Perm` only (the real hasher sorts): `digestSha_perm`, and
`digestSha_collision` for the converse up to a collision of `sha`.  What that means for the run engine's theorems is said
in `Props/C01Sha.lean`. -/
namespace Spok.RunHash
open Spok Spok.Run

abbrev Bytes := Hash.Bytes
abbrev Path := Hash.Path

/-! ## an injective code of the hasher's result in `Nat` -/

/-- strictly more than `Char.toNat c + 1` for every `c` -/
def charBase : Nat := 1114113

/-- bijective base-`charBase` numeral of a character list (digits `c.toNat + 1 ∈ [1, charBase)`, least significant first) -/
def codeChars : List Char → Nat
  | [] => 0
  | c :: cs => (c.toNat + 1) + charBase * codeChars cs

theorem char_digit_lt (c : Char) : c.toNat + 1 < charBase := by
  have h : c.toNat < 1114112 := by
    have := c.valid
    simp only [Char.toNat]
    rcases this with h | ⟨_, h⟩ <;> simp only [UInt32.toNat] at * <;> omega
  unfold charBase; omega

theorem codeChars_injective : ∀ {a b : List Char}, codeChars a = codeChars b → a = b
  | [], [], _ => rfl
  | [], d :: ds, h => by simp only [codeChars] at h; omega
  | c :: cs, [], h => by simp only [codeChars] at h; omega
  | c :: cs, d :: ds, h => by
    simp only [codeChars] at h
    have hc := char_digit_lt c
    have hd := char_digit_lt d
    have hmod : (c.toNat + 1 + charBase * codeChars cs) % charBase = c.toNat + 1 := by
      rw [Nat.add_mul_mod_self_left, Nat.mod_eq_of_lt hc]
    have hmod' : (d.toNat + 1 + charBase * codeChars ds) % charBase = d.toNat + 1 := by
      rw [Nat.add_mul_mod_self_left, Nat.mod_eq_of_lt hd]
    have hcd : c.toNat + 1 = d.toNat + 1 := by rw [← hmod, ← hmod', h]
    have hcd' : c = d := Char.toNat_inj.mp (by omega)
    have hrest : charBase * codeChars cs = charBase * codeChars ds := by omega
    have := Nat.eq_of_mul_eq_mul_left (by decide : 0 < charBase) hrest
    rw [hcd', codeChars_injective this]

/-- the hasher's result as a `Digest` of the run model: `0` for the (only) error, else the numeral of the hex string + 1 -/
def code : Except Hash.Err String → Digest
  | .error _ => 0
  | .ok s => codeChars s.toList + 1

theorem code_injective : ∀ {a b : Except Hash.Err String}, code a = code b → a = b
  | .error .unreadable, .error .unreadable, _ => rfl
  | .error _, .ok _, h => by simp [code] at h
  | .ok _, .error _, h => by simp [code] at h
  | .ok s, .ok s', h => by
    simp only [code, Nat.add_right_cancel_iff] at h
    rw [String.toList_inj.mp (codeChars_injective h)]

/-! ## abstract inputs as concrete file lists -/

section interp
variable (sha : Bytes → Bytes) (pathOf : Nat → Path) (contentOf : Nat → Bytes)

/-- the (path, content) pair an abstract item stands for -/
def pairOf (it : Item) : Path × Bytes := (pathOf it.1, contentOf it.2)

/-- the file list the hasher is handed for the abstract inputs `items`: every item a regular file
    (directories produce no result in the hasher and are not part of `Items`, see `Inputs.dirs`) -/
def concrete (items : Items) : List (Path × Hash.Entry) :=
  items.map fun (f, c) => (pathOf f, .regular (contentOf c))

/-- the run model's digest, instantiated: the real digest function on the concrete file list, coded in `Nat` -/
def digestSha (items : Items) : Digest := code (Hash.digest sha (concrete pathOf contentOf items))

theorem regs_concrete (items : Items) :
    Hash.regs (concrete pathOf contentOf items) = items.map (pairOf pathOf contentOf) := by
  induction items with
  | nil => rfl
  | cons it t ih =>
    simp only [concrete, List.map_cons, Hash.regs, pairOf] at ih ⊢
    rw [ih]

theorem concrete_readable (items : Items) : ∀ pe ∈ concrete pathOf contentOf items, pe.2 ≠ .unreadable := by
  intro pe hpe
  simp only [concrete, List.mem_map] at hpe
  obtain ⟨⟨f, c⟩, _, rfl⟩ := hpe
  simp

theorem digest_concrete_ok (items : Items) : ∃ d, Hash.digest sha (concrete pathOf contentOf items) = .ok d :=
  Hash.digest_ok_of_readable sha (concrete_readable pathOf contentOf items)

/-- the 32 bytes the real hasher hex-encodes for `items`: `sha` of the sorted, concatenated 64-byte items -/
def rawDigest (items : Items) : Bytes :=
  sha (Hash.sort ((items.map (pairOf pathOf contentOf)).map (Hash.itemOf sha))).flatten

theorem digest_concrete_eq (items : Items) :
    Hash.digest sha (concrete pathOf contentOf items) = .ok (Hash.hex (rawDigest sha pathOf contentOf items)) := by
  rw [Hash.digest_eq, Hash.any_isUnreadable_eq_false (concrete_readable pathOf contentOf items), regs_concrete]
  rfl

theorem digestSha_eq_iff_raw (i j : Items) :
    digestSha sha pathOf contentOf i = digestSha sha pathOf contentOf j ↔
      rawDigest sha pathOf contentOf i = rawDigest sha pathOf contentOf j := by
  unfold digestSha
  rw [digest_concrete_eq, digest_concrete_eq]
  constructor
  · intro h
    have := code_injective h
    injection this with this
    exact Hash.hex_injective this
  · intro h; rw [h]

theorem rawDigest_perm {i j : Items} (h : i.Perm j) : rawDigest sha pathOf contentOf i = rawDigest sha pathOf contentOf j := by
  unfold rawDigest
  rw [Hash.sort_eq_of_perm ((h.map _).map _)]

/-- when the items already come in the hasher's order, sorting does nothing (lets the kernel evaluate `rawDigest` on
    concrete inputs without unfolding the well-founded recursion of `List.mergeSort`) -/
theorem rawDigest_of_sorted (items : Items)
    (hs : ((items.map (pairOf pathOf contentOf)).map (Hash.itemOf sha)).Pairwise (fun a b => Hash.ble a b = true)) :
    rawDigest sha pathOf contentOf items = sha ((items.map (pairOf pathOf contentOf)).map (Hash.itemOf sha)).flatten := by
  unfold rawDigest
  rw [List.Perm.eq_of_pairwise (fun a b _ _ => Hash.ble_antisymm a b) (Hash.sort_sorted _) hs (Hash.sort_perm _)]

/-- both hypotheses in one, so that on concrete inputs one kernel evaluation serves both (the kernel shares the items) -/
theorem rawDigest_eq_of_sorted (items : Items) (v : Bytes)
    (h : ((items.map (pairOf pathOf contentOf)).map (Hash.itemOf sha)).Pairwise (fun a b => Hash.ble a b = true) ∧
      sha ((items.map (pairOf pathOf contentOf)).map (Hash.itemOf sha)).flatten = v) :
    rawDigest sha pathOf contentOf items = v := by
  rw [rawDigest_of_sorted _ _ _ _ h.1, h.2]

/-- the instantiated digest is never the code of the error -/
theorem digestSha_pos (items : Items) : 0 < digestSha sha pathOf contentOf items := by
  obtain ⟨d, hd⟩ := digest_concrete_ok sha pathOf contentOf items
  simp [digestSha, hd, code]

theorem pairOf_injective (hp : Function.Injective pathOf) (hc : Function.Injective contentOf) :
    Function.Injective (pairOf pathOf contentOf) := by
  intro ⟨f, c⟩ ⟨g, d⟩ h
  simp only [pairOf, Prod.mk.injEq] at h
  rw [hp h.1, hc h.2]

theorem digestSha_perm {i j : Items} (h : i.Perm j) : digestSha sha pathOf contentOf i = digestSha sha pathOf contentOf j := by
  unfold digestSha concrete
  rw [Hash.digest_perm sha (h.map _)]

/-- equal instantiated digests: the same collection of (file, content) pairs, or `sha` collided
    (from `Hash.regs_perm_of_digest_eq` and the injectivity of `code`, `pathOf`, `contentOf`) -/
theorem digestSha_collision (h32 : ∀ x, (sha x).length = 32)
    (hp : Function.Injective pathOf) (hc : Function.Injective contentOf) {i j : Items}
    (h : digestSha sha pathOf contentOf i = digestSha sha pathOf contentOf j) : i.Perm j ∨ Hash.Collision sha := by
  obtain ⟨di, hdi⟩ := digest_concrete_ok sha pathOf contentOf i
  obtain ⟨dj, hdj⟩ := digest_concrete_ok sha pathOf contentOf j
  have hcode := code_injective h
  rw [hdi, hdj] at hcode
  injection hcode with hcode
  subst hcode
  rcases Hash.regs_perm_of_digest_eq h32 hdi hdj with hperm | hcol
  · rw [regs_concrete, regs_concrete] at hperm
    exact (Hash.perm_of_map_perm (pairOf pathOf contentOf) hperm).imp_right
      fun ⟨x, y, hxy, hf⟩ => absurd (pairOf_injective pathOf contentOf hp hc hf) hxy
  · exact .inr hcol

end interp

/-! ## a concrete injective naming (so that the injectivity hypotheses are satisfiable) -/

/-- file id `n` ↦ the path `"a…a"` (`n + 1` letters) -/
def pathU (n : Nat) : Path := List.replicate (n + 1) 97
/-- content id `n` ↦ `n` bytes `'x'` (content 0 is the empty file) -/
def contentU (n : Nat) : Bytes := List.replicate n 120

theorem pathU_injective : Function.Injective pathU := by
  intro a b h
  have := congrArg List.length h
  simpa [pathU] using this

theorem contentU_injective : Function.Injective contentU := by
  intro a b h
  have := congrArg List.length h
  simpa [contentU] using this

section upto
variable (digest : Items → Digest)

/-- every state met in any history (kills included) satisfies the soundness invariant -/
theorem reach_inv {s : St} (h : Reach digest false s) : Inv digest s := inv_of_reach digest h

end upto

/-! ## a skip is reachable for EVERY digest function (non-vacuity without evaluating the digest) -/

def inpA : Name → Option Inputs := fun _ => some ⟨0, [(0, 1), (1, 2)]⟩
def noFail : Name → Bool := fun _ => false

/-- run task 0 on files {0 ↦ content 1, 1 ↦ content 2} -/
def hRun : History := [.edit inpA, .invoke false [0] noFail none]

/-- the machine state at the decision of the next invocation of task 0 -/
def atDecide (digest : Items → Digest) (h : History) : St :=
  step digest (initSt (runHistory digest World.init h).1 false [0] noFail)

theorem atDecide_reach (digest : Items → Digest) (h : History) : Reach digest false (atDecide digest h) :=
  .step (.start h (by simp) false [0] noFail)

theorem atDecide_reach_cf (digest : Items → Digest) (h : History) (hcf : crashFree h = true) :
    Reach digest true (atDecide digest h) :=
  .step (.start h (fun _ => hcf) false [0] noFail)

/-- after `hRun` the cache holds the digest of the inputs, whatever the digest function is and whatever items `its` task 0
    is given next -/
theorem atDecide_hRun (digest : Items → Digest) (its : Items) :
    (atDecide digest (hRun ++ [.edit fun _ => some ⟨0, its⟩])).pc = .decide ∧
    (atDecide digest (hRun ++ [.edit fun _ => some ⟨0, its⟩])).todo = [⟨0, ⟨0, its⟩, true, true⟩] ∧
    (atDecide digest (hRun ++ [.edit fun _ => some ⟨0, its⟩])).force = false ∧
    (atDecide digest (hRun ++ [.edit fun _ => some ⟨0, its⟩])).mem 0 = some (digest [(0, 1), (1, 2)]) ∧
    (atDecide digest (hRun ++ [.edit fun _ => some ⟨0, its⟩])).last 0 = some [(0, 1), (1, 2)] := by
  simp [atDecide, hRun, runHistory, runEvent, runInv, iter, step, initSt, mkTask, World.init, fuel, inpA, noFail,
    skipTest, recorded, upd, Inputs.n, res]

/-- run, run again: the second invocation skips — for every digest function -/
theorem skip_reachable (digest : Items → Digest) :
    ∃ s t rest, Reach digest false s ∧ s.pc = .decide ∧ s.todo = t :: rest ∧ skipTest digest s t = true := by
  obtain ⟨h1, h2, h3, h4, _⟩ := atDecide_hRun digest [(0, 1), (1, 2)]
  refine ⟨_, _, _, atDecide_reach digest _, h1, h2, ?_⟩
  simp [skipTest, h3, h4, Inputs.n]

end Spok.RunHash
