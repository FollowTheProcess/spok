import Spok.Lemmas.LexPrim
/-! # Corollaries of the `…_reads` specifications, field by field

Where the scanning loops leave `right`, `tokRev`, `toks` and `left`; that what `skipWs` stops at is no white space
and no line end; that the loops do not lengthen the input (for termination, C08). -/
namespace Spok

theorem skipWs_right (l : L) : (skipWs l).right = l.right.dropWhile isSpace := by
  obtain ⟨m, h, e⟩ := skipWs_reads l
  rw [e]; exact takeWhile_dropWhile_cancel h.right

theorem skipWs_head (l : L) : ∀ r rs, (skipWs l).right = r :: rs → isSpace r = false := by
  intro r rs h
  have := List.head?_dropWhile_not isSpace l.right
  rwa [← skipWs_right, h] at this

/-- entered in front of a token that is not white space, `skipWs` moves nothing -/
theorem skipWs_right_of_hasPrefix {l : L} {c : Nat} {s : List Nat} (h : l.hasPrefix (c :: s) = true)
    (hc : isSpaceCp c = false) : (skipWs l).right = l.right := by
  rw [skipWs_right]
  cases hr : l.right with
  | nil => rfl
  | cons r rs =>
    have : r.cp = c := by
      have h' := h; simp only [L.hasPrefix, hr] at h'; simp at h'; exact h'.1
    simp [isSpace, this, hc]

theorem startsEol_of_head {xs : List Rune} (h : ∀ r, xs.head? = some r → isSpace r = false) : startsEol xs = false := by
  cases xs with
  | nil => rfl
  | cons x xs =>
    have hx := h x rfl
    have h1 : x.cp ≠ NL := fun hc => by rw [isSpace, hc, isSpaceCp_NL] at hx; cases hx
    have h2 : x.cp ≠ CR := fun hc => by rw [isSpace, hc, isSpaceCp_CR] at hx; cases hx
    simp [startsEol, h1, h2]

theorem startsEol_skipWs (l : L) : startsEol (skipWs l).right = false :=
  startsEol_of_head fun r hr => by
    cases h : (skipWs l).right with
    | nil => rw [h] at hr; cases hr
    | cons x xs => rw [h] at hr; cases hr; exact skipWs_head l _ xs h

@[simp] theorem skipWs_tokRev (l : L) : (skipWs l).tokRev = [] := by
  obtain ⟨m, _, e⟩ := skipWs_reads l; rw [e]; rfl

@[simp] theorem skipWs_toks (l : L) : (skipWs l).toks = l.toks := by
  obtain ⟨m, r, e⟩ := skipWs_reads l; rw [e]; exact r.toks

theorem skipWs_left (l : L) : (skipWs l).left = (l.right.takeWhile isSpace).reverse ++ l.left := by
  obtain ⟨m, r, e⟩ := skipWs_reads l; rw [e]; exact r.left

@[simp] theorem scanIdent_toks (l : L) : (scanIdent l).toks = l.toks := (scanIdent_reads l).toks
@[simp] theorem skipBlanks_toks (l : L) : (skipBlanks l).toks = l.toks := (skipBlanks_reads l).toks

theorem scanIdent_right (l : L) : (scanIdent l).right = l.right.dropWhile isIdent :=
  takeWhile_dropWhile_cancel (scanIdent_reads l).right

theorem skipWs_right_le (l : L) : (skipWs l).right.length ≤ l.right.length := by
  obtain ⟨m, h, e⟩ := skipWs_reads l
  rw [e]; have := h.right_length; simp; omega

theorem scanIdent_right_le (l : L) : (scanIdent l).right.length ≤ l.right.length := by
  have := (scanIdent_reads l).right_length; omega

theorem scanComment_right_le (l : L) : (scanComment l).right.length ≤ l.right.length := by
  have := (scanComment_reads l).right_length; omega

/-- a terminated string consumed at least its closing quote -/
theorem scanString_ok_right_lt (l l' : L) (h : scanString l = .ok l') : l'.right.length < l.right.length := by
  obtain ⟨s, h1, h2⟩ := (scanString_reads l).1 l' h
  have := h2.right_length
  have : s ≠ [] := strSpan_ne_nil h1
  cases s with | nil => contradiction | cons => simp at *; omega

theorem scanString_toks (l : L) : ∀ l', (scanString l = .ok l' ∨ scanString l = .error l') → l'.toks = l.toks := by
  rintro l' (hs | hs)
  · obtain ⟨_, _, r⟩ := (scanString_reads l).1 l' hs; exact r.toks
  · obtain ⟨_, _, m, r, rfl⟩ := (scanString_reads l).2 l' hs; simpa using r.toks

end Spok
