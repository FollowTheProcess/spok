import Spok.Env
import Spok.Lemmas.ListFind
/-! # The variable map (`get` / `set`: one entry per name), the environment list (`lookup`: the last entry of a name
wins), both read through `find?`; `load` keeps the map duplicate-free and the tasks already loaded; `strings.TrimSpace`. -/
namespace Spok.Env
open Spok.Clean (Str)

/-! ## maps built with `set` -/

def keys (vs : Vars) : List Str := vs.map Prod.fst

def NodupKeys (vs : Vars) : Prop := (keys vs).Nodup

theorem get_set_same (vs : Vars) (k v : Str) : get (set vs k v) k = some v := by
  induction vs with
  | nil => simp [set, get]
  | cons p rest ih =>
    obtain ⟨k', v'⟩ := p
    by_cases h : k' = k
    · simp [set, get, h]
    · simp [set, get, h, ih]

theorem get_set_other (vs : Vars) {k k' : Str} (v : Str) (h : k' ≠ k) : get (set vs k v) k' = get vs k' := by
  induction vs with
  | nil => simp [set, get, h.symm]
  | cons p rest ih =>
    obtain ⟨k0, v0⟩ := p
    by_cases h0 : k0 = k
    · subst h0
      simp [set, get, h.symm]
    · by_cases h1 : k0 = k'
      · subst h1; simp [set, get, h0]
      · simp [set, get, h0, h1, ih]

theorem keys_set (vs : Vars) (k v : Str) : keys (set vs k v) = if k ∈ keys vs then keys vs else keys vs ++ [k] := by
  induction vs with
  | nil => rfl
  | cons p rest ih =>
    obtain ⟨k0, v0⟩ := p
    by_cases h0 : k0 = k
    · subst h0; simp [set, keys]
    · have : k ∈ keys ((k0, v0) :: rest) ↔ k ∈ keys rest := by simp [keys, Ne.symm h0]
      simp only [this]
      rw [set, if_neg h0]
      show k0 :: keys (set rest k v) = _
      rw [ih]; split <;> rfl

theorem nodupKeys_set {vs : Vars} (h : NodupKeys vs) (k v : Str) : NodupKeys (set vs k v) := by
  unfold NodupKeys
  rw [keys_set]
  split
  · exact h
  · exact nodup_concat.2 ⟨h, ‹_›⟩
theorem get_eq_find? (vs : Vars) (k : Str) : get vs k = (vs.find? (·.1 == k)).map (·.2) := by
  induction vs with
  | nil => rfl
  | cons p rest ih =>
    obtain ⟨k', v⟩ := p
    by_cases h : k' = k <;> simp [get, h, ih]

theorem get_eq_some_of_mem {vs : Vars} (hn : NodupKeys vs) {k v : Str} (hm : (k, v) ∈ vs) : get vs k = some v := by
  rw [get_eq_find?, find?_key_of_mem hn hm]; rfl

theorem mem_of_get_eq_some {vs : Vars} {k v : Str} (h : get vs k = some v) : (k, v) ∈ vs := by
  rw [get_eq_find?, Option.map_eq_some_iff] at h
  obtain ⟨⟨k', v'⟩, hf, rfl⟩ := h
  have := List.find?_some hf
  simp only [beq_iff_eq] at this
  exact this ▸ List.mem_of_find?_eq_some hf

/-! ## the environment list: the last entry of a name wins -/

theorem lookup_eq_find? (e : EnvList) (k : Str) : lookup e k = (e.reverse.find? (·.1 == k)).map (·.2) := by
  induction e with
  | nil => rfl
  | cons p rest ih =>
    obtain ⟨k', v⟩ := p
    rw [lookup, ih, List.reverse_cons, List.find?_append]
    cases rest.reverse.find? (·.1 == k) <;> by_cases h : k' = k <;> simp [h]

theorem lookup_append (a b : EnvList) (k : Str) :
    lookup (a ++ b) k = match lookup b k with
      | some w => some w
      | none => lookup a k := by
  simp only [lookup_eq_find?, List.reverse_append, List.find?_append]
  cases b.reverse.find? (·.1 == k) <;> rfl

theorem lookup_none_of_not_key {e : EnvList} {k : Str} (h : k ∉ keys e) : lookup e k = none := by
  rw [lookup_eq_find?, find?_key_eq_none (by simpa [keys] using h), Option.map_none]

theorem lookup_eq_some_of_mem {e : EnvList} (hn : NodupKeys e) {k v : Str} (hm : (k, v) ∈ e) : lookup e k = some v := by
  rw [lookup_eq_find?, find?_key_reverse_of_mem hn hm]; rfl

theorem hasKey_of_lookup {e : EnvList} {k w : Str} (h : lookup e k = some w) : hasKey e k = true := by
  cases hk : hasKey e k with
  | true => rfl
  | false =>
    have : k ∉ keys e := by
      intro hmem
      simp only [keys, List.mem_map] at hmem
      obtain ⟨p, hp, hpk⟩ := hmem
      have : hasKey e k = true := by
        simp only [hasKey, List.any_eq_true]
        exact ⟨p, hp, by simp [hpk]⟩
      rw [hk] at this
      exact Bool.noConfusion this
    rw [lookup_none_of_not_key this] at h
    simp at h

theorem nodupKeys_perm {a b : EnvList} (hp : a.Perm b) (hn : NodupKeys b) : NodupKeys a := by
  exact (hp.map Prod.fst).nodup_iff.2 hn

/-! ## load: what survives an assignment and the addition of a task survives loading -/

theorem loadAux_decl_ok {cwd : Str} {n : Str} {rhs : Rhs} {rest : List Stmt} {f f' : File}
    (h : loadAux cwd (.decl n rhs :: rest) f = .ok f') :
    ∃ v, evalRhs cwd rhs = .ok v ∧ loadAux cwd rest { f with vars := set f.vars n v } = .ok f' := by
  rw [loadAux] at h
  split at h
  · cases h
  · exact ⟨_, ‹_›, h⟩

theorem loadAux_task_ok {cwd : Str} {t : TaskSrc} {rest : List Stmt} {f f' : File}
    (h : loadAux cwd (.task t :: rest) f = .ok f') :
    ∃ cs, expandAll f.vars t.commands = .ok cs ∧
      loadAux cwd rest { f with tasks := f.tasks ++ [⟨t.name, cs, f.vars⟩] } = .ok f' := by
  rw [loadAux] at h
  split at h
  · cases h
  · split at h
    · cases h
    · exact ⟨_, ‹_›, h⟩

theorem loadAux_induction {P : File → Prop} {cwd : Str}
    (hset : ∀ f n v, P f → P { f with vars := set f.vars n v })
    (htask : ∀ f l, P f → P { f with tasks := f.tasks ++ [l] }) :
    ∀ {stmts : List Stmt} {f f' : File}, P f → loadAux cwd stmts f = .ok f' → P f'
  | [], f, f', hP, h => by cases h; exact hP
  | .decl n rhs :: rest, f, f', hP, h =>
    have ⟨_, _, h⟩ := loadAux_decl_ok h
    loadAux_induction hset htask (hset _ _ _ hP) h
  | .task t :: rest, f, f', hP, h =>
    have ⟨_, _, h⟩ := loadAux_task_ok h
    loadAux_induction hset htask (htask _ _ hP) h

theorem load_nodup {cwd : Str} {stmts : List Stmt} {f : File} (h : load cwd stmts = .ok f) : NodupKeys f.vars :=
  loadAux_induction (P := fun f => NodupKeys f.vars) (fun _ _ _ h => nodupKeys_set h _ _) (fun _ _ h => h)
    (by simp [NodupKeys, keys]) h

theorem loadAux_tasks_mono {cwd : Str} {stmts : List Stmt} {f f' : File}
    (h : loadAux cwd stmts f = .ok f') : ∀ l ∈ f.tasks, l ∈ f'.tasks :=
  loadAux_induction (P := fun g => ∀ l ∈ f.tasks, l ∈ g.tasks) (fun _ _ _ h => h)
    (fun _ _ h l hl => List.mem_append_left _ (h l hl)) (fun _ h => h) h

/-! ## strings.TrimSpace -/

theorem trimLeft_spec (s : Str) : ∃ l, s = l ++ trimLeft s ∧ l.all isSpace = true ∧
    (∀ c, (trimLeft s).head? = some c → isSpace c = false) := by
  refine ⟨s.takeWhile isSpace, ?_, ?_, ?_⟩
  · simp [trimLeft, List.takeWhile_append_dropWhile]
  · exact List.all_takeWhile
  · intro c hc
    unfold trimLeft at hc
    have := List.head?_dropWhile_not isSpace s
    rw [hc] at this
    simpa using this

theorem trimRight_spec (s : Str) : ∃ r, s = trimRight s ++ r ∧ r.all isSpace = true ∧
    (∀ c, (trimRight s).getLast? = some c → isSpace c = false) := by
  obtain ⟨l, h1, h2, h3⟩ := trimLeft_spec s.reverse
  refine ⟨l.reverse, ?_, ?_, ?_⟩
  · have := congrArg List.reverse h1
    simpa [trimRight, trimLeft] using this
  · simpa using h2
  · intro c hc
    apply h3 c
    simpa [trimRight, trimLeft, List.getLast?_reverse] using hc

end Spok.Env
