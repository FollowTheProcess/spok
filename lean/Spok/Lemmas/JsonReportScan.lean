import Spok.Lemmas.JsonReport
import Spok.Lemmas.JsonEnc
/-! # The scanner over the `--json` report: one value, complete only at its last byte -/
namespace Spok.Json
open Spok

theorem seg_kw {stk : List PS} (hs : stk ≠ []) {stp : Step} (hv : VStart stp) {w : Bytes} (hw : w = kNull ∨ w = kTrue ∨ w = kFalse) :
    Seg (St stp stk) w (St .endValue stk) := by
  rcases hv with rfl | rfl <;> rcases hw with rfl | rfl | rfl <;>
    simp [kNull, kTrue, kFalse, ascii, seg_St_cons hs, stepFn, beginValue, lit, isSpace, Seg.nil]

theorem seg_s1_digits {stk : List PS} (hs : stk ≠ []) : ∀ (ds : Bytes), AllDigits ds → Seg (St .s1 stk) ds (St .s1 stk)
  | [], _ => Seg.nil _
  | d :: ds, h =>
    Seg.step (NA_St hs) (by rw [feed_St]; unfold stepFn; simp [show isDigit d.toNat = true from h d (by simp)])
      (seg_s1_digits hs ds fun x hx => h x (by simp [hx]))

theorem beginValue_digit19 (s : Sc) {c : Nat} (h1 : 49 ≤ c) (h2 : c ≤ 57) : beginValue s c = { s with step := .s1 } := by
  have h : ∀ k, k < 49 ∨ 57 < k → (c == k) = false := fun k hk => by simp; omega
  simp [beginValue, isSpace, h, h1, h2]

/-- a number leaves the scanner in a number state: the byte after it decides that the number has ended -/
theorem seg_natDigits {stk : List PS} (hs : stk ≠ []) (n : Nat) :
    ∃ stp, (stp = .s0 ∨ stp = .s1) ∧ Seg (St .beginValue stk) (natDigits n) (St stp stk) := by
  rcases natDigits_shape n with h0 | ⟨d, ds, hd, h1, h2, h3⟩
  · exact ⟨.s0, .inl rfl, h0 ▸ Seg.step (NA_St hs) (by rw [feed_St]; unfold stepFn; simp [beginValue, isSpace]) (Seg.nil _)⟩
  · exact ⟨.s1, .inr rfl, hd ▸ Seg.step (NA_St hs) (by rw [feed_St]; unfold stepFn; exact beginValue_digit19 _ h1 h2)
      (seg_s1_digits hs ds h3)⟩

/-- the last member of an object: a number, then the closing brace (which the number state itself consumes) -/
theorem seg_number_close {rest : List PS} (hr : rest ≠ []) (n : Nat) :
    Seg (St .beginValue (.objVal :: rest)) (natDigits n ++ [125]) (St .endValue rest) := by
  obtain ⟨stp, h, hseg⟩ := seg_natDigits (stk := .objVal :: rest) (by simp) n
  refine hseg.append (Seg.step (NA_St (by simp)) ?_ (Seg.nil _))
  rw [feed_St, ← after_ne hr, ← (endValue_close stp rest).1]
  rcases h with rfl | rfl <;> (unfold stepFn; simp [isDigit, state0])

def depthOk (stk : List PS) : Prop := stk.length + 2 ≤ maxNestingDepth

theorem depthOk_cons {stk : List PS} (p q : PS) (h : stk.length + 4 ≤ maxNestingDepth) : depthOk (p :: q :: stk) := by
  unfold depthOk; simp only [List.length_cons]; omega

/-- `{"key":` -/
theorem seg_first_key {stk : List PS} (hs : stk ≠ []) (hd : stk.length < maxNestingDepth) {stp : Step} (hv : VStart stp) (k : Bytes) :
    Seg (St stp stk) (123 :: (encStr k ++ [58])) (St .beginValue (.objVal :: stk)) :=
  Seg.step (NA_St hs) (feed_open_obj hv hd)
    ((seg_encStr (.inr (.inr rfl)) (by simp) k).append (Seg.step (NA_St (by simp)) (feed_colon stk) (Seg.nil _)))

/-- `,"key":` -/
theorem seg_next_key (rest : List PS) (k : Bytes) :
    Seg (St .endValue (.objVal :: rest)) (44 :: (encStr k ++ [58])) (St .beginValue (.objVal :: rest)) :=
  Seg.step (NA_St (by simp)) (feed_comma rest)
    ((seg_encStr (.inr (.inl rfl)) (by simp) k).append (Seg.step (NA_St (by simp)) (feed_colon rest) (Seg.nil _)))

theorem seg_arr {stk : List PS} (hs : stk ≠ []) (hd : stk.length < maxNestingDepth) {stp : Step} (hv : VStart stp) (items : List Bytes)
    (hitem : ∀ it ∈ items, ∀ stp, VStart stp → Seg (St stp (.arrVal :: stk)) it (St .endValue (.arrVal :: stk))) :
    Seg (St stp stk) (encArr items) (St .endValue stk) :=
  Seg.step (NA_St hs) (feed_open_arr hv hd) (after_ne hs ▸ seg_arr_body items hitem)

theorem kCmd_eq : kCmd = 123 :: (encStr (strBytes "cmd") ++ [58]) := by decide +kernel
theorem kStdout_eq : kStdout = 44 :: (encStr (strBytes "stdout") ++ [58]) := by decide +kernel
theorem kStderr_eq : kStderr = 44 :: (encStr (strBytes "stderr") ++ [58]) := by decide +kernel
theorem kStatus_eq : kStatus = 44 :: (encStr (strBytes "status") ++ [58]) := by decide +kernel
theorem kTask_eq : kTask = 123 :: (encStr (strBytes "task") ++ [58]) := by decide +kernel
theorem kResults_eq : kResults = 44 :: (encStr (strBytes "results") ++ [58]) := by decide +kernel
theorem kSkipped_eq : kSkipped = 44 :: (encStr (strBytes "skipped") ++ [58]) := by decide +kernel

theorem seg_cmd {stk : List PS} (hs : stk ≠ []) (hd : stk.length < maxNestingDepth) {stp : Step} (hv : VStart stp) (c : BCmd) :
    Seg (St stp stk) (encCmd c) (St .endValue stk) := by
  unfold encCmd
  rw [kCmd_eq, kStdout_eq, kStderr_eq, kStatus_eq]
  refine (seg_first_key hs hd hv _).append ?_
  refine (seg_encStr (.inl (.inl rfl)) (by simp) _).append ?_
  refine (seg_next_key _ _).append ?_
  refine (seg_encStr (.inl (.inl rfl)) (by simp) _).append ?_
  refine (seg_next_key _ _).append ?_
  refine (seg_encStr (.inl (.inl rfl)) (by simp) _).append ?_
  exact (seg_next_key _ _).append (seg_number_close hs _)

theorem seg_cmds {stk : List PS} (hs : stk ≠ []) (hd : stk.length + 2 ≤ maxNestingDepth) (cs : List BCmd) :
    Seg (St .beginValue stk) (encCmds cs) (St .endValue stk) := by
  cases cs with
  | nil => exact seg_kw hs (.inl rfl) (.inl rfl)
  | cons c cs =>
    refine seg_arr hs (by omega) (.inl rfl) _ fun it hit stp hv => ?_
    obtain ⟨c', _, rfl⟩ := List.mem_map.mp hit
    exact seg_cmd (by simp) (by simp only [List.length_cons]; omega) hv c'

theorem seg_result {stk : List PS} (hs : stk ≠ []) (hd : stk.length + 3 ≤ maxNestingDepth) {stp : Step} (hv : VStart stp) (r : BResult) :
    Seg (St stp stk) (encResult r) (St .endValue stk) := by
  unfold encResult
  rw [kTask_eq, kResults_eq, kSkipped_eq]
  refine (seg_first_key hs (by omega) hv _).append ?_
  refine (seg_encStr (.inl (.inl rfl)) (by simp) _).append ?_
  refine (seg_next_key _ _).append ?_
  refine (seg_cmds (by simp) (by simp only [List.length_cons]; omega) _).append ?_
  refine (seg_next_key _ _).append ?_
  refine Seg.append (s1 := St .endValue (.objVal :: stk)) ?_ ?_
  · exact seg_kw (by simp) (.inl rfl) (by cases r.skipped <;> simp [encBool])
  · exact Seg.step (NA_St (by simp)) (by rw [feed_St]; unfold stepFn; exact (endValue_close _ stk).1.trans (after_ne hs)) (Seg.nil _)

theorem doc_encReport (rs : List BResult) : Doc (encReport rs) := by
  refine doc_of_seg ?_
  rw [show feed Sc.init 91 = _ from feed_open_arr (.inl rfl) (stk := []) (by decide)]
  refine seg_arr_body _ fun it hit stp hv => ?_
  obtain ⟨r, _, rfl⟩ := List.mem_map.mp hit
  exact seg_result (by simp) (by decide) hv r

end Spok.Json
