import Spok.Basic.Rune
/-! # UTF-8: what `decode1` accepts, and decoding a concatenation

`Rune.Valid r` says that the bytes of `r` are a well-formed UTF-8 sequence and `r.cp` the code point it denotes.
`decode1` returns the valid rune the input begins with, or U+FFFD for the lead byte alone (`decode1_spec`); conversely
a valid rune is decoded from its own bytes whatever follows (`Rune.Valid.decode1_eq`).  These two lemmas unfold
`decode1`; every other fact about `decode1` and `decodeAll` is a consequence of them.

`decodeAll (a ++ b) = decodeAll a ++ decodeAll b` whenever `b` does not begin with a continuation byte
(in particular when it is empty or begins with an ASCII byte): a truncated multi-byte sequence at the
end of `a` is invalid with or without `b` after it.  This is what lets the byte-level round-trip
statements be derived from the rune-level ones: the printer only ever puts ASCII literals after the
token texts it copies. -/
namespace Spok

/-- The well-formed UTF-8 sequences (Unicode Table 3-7: no over-long forms, no surrogates, nothing above
    U+10FFFF), which are what Go's decoder accepts, each with the code point it denotes. -/
inductive Rune.Valid : Rune → Prop
  | one {b0 : UInt8} : b0.toNat < 0x80 → Valid ⟨b0.toNat, b0, []⟩
  | two {b0 b1 : UInt8} : 0xC2 ≤ b0.toNat → b0.toNat < 0xE0 → 0x80 ≤ b1.toNat → b1.toNat ≤ 0xBF →
      Valid ⟨b0.toNat % 32 * 64 + b1.toNat % 64, b0, [b1]⟩
  | three {b0 b1 b2 : UInt8} : 0xE0 ≤ b0.toNat → b0.toNat < 0xF0 → 0x80 ≤ b1.toNat → b1.toNat ≤ 0xBF →
      (b0.toNat = 0xE0 → 0xA0 ≤ b1.toNat) → (b0.toNat = 0xED → b1.toNat ≤ 0x9F) →
      0x80 ≤ b2.toNat → b2.toNat ≤ 0xBF →
      Valid ⟨b0.toNat % 16 * 4096 + b1.toNat % 64 * 64 + b2.toNat % 64, b0, [b1, b2]⟩
  | four {b0 b1 b2 b3 : UInt8} : 0xF0 ≤ b0.toNat → b0.toNat < 0xF5 → 0x80 ≤ b1.toNat → b1.toNat ≤ 0xBF →
      (b0.toNat = 0xF0 → 0x90 ≤ b1.toNat) → (b0.toNat = 0xF4 → b1.toNat ≤ 0x8F) →
      0x80 ≤ b2.toNat → b2.toNat ≤ 0xBF → 0x80 ≤ b3.toNat → b3.toNat ≤ 0xBF →
      Valid ⟨b0.toNat % 8 * 262144 + b1.toNat % 64 * 4096 + b2.toNat % 64 * 64 + b3.toNat % 64, b0, [b1, b2, b3]⟩

/-! Each multi-byte form is a bijection between the byte ranges of `Rune.Valid` and a range of code points.  These
    three facts carry all the arithmetic of encoding and decoding. -/

theorem utf8_two {a b cp : Nat} :
    (0xC2 ≤ a ∧ a < 0xE0 ∧ 0x80 ≤ b ∧ b ≤ 0xBF ∧ cp = a % 32 * 64 + b % 64) ↔
    (0x80 ≤ cp ∧ cp < 0x800 ∧ a = 0xC0 + cp / 64 ∧ b = 0x80 + cp % 64) := by omega

theorem utf8_three {a b c cp : Nat} :
    (0xE0 ≤ a ∧ a < 0xF0 ∧ 0x80 ≤ b ∧ b ≤ 0xBF ∧ (a = 0xE0 → 0xA0 ≤ b) ∧ (a = 0xED → b ≤ 0x9F) ∧ 0x80 ≤ c ∧ c ≤ 0xBF ∧
      cp = a % 16 * 4096 + b % 64 * 64 + c % 64) ↔
    (0x800 ≤ cp ∧ cp < 0x10000 ∧ ¬ (0xD800 ≤ cp ∧ cp < 0xE000) ∧
      a = 0xE0 + cp / 4096 ∧ b = 0x80 + cp / 64 % 64 ∧ c = 0x80 + cp % 64) := by omega

theorem utf8_four {a b c d cp : Nat} :
    (0xF0 ≤ a ∧ a < 0xF5 ∧ 0x80 ≤ b ∧ b ≤ 0xBF ∧ (a = 0xF0 → 0x90 ≤ b) ∧ (a = 0xF4 → b ≤ 0x8F) ∧ 0x80 ≤ c ∧ c ≤ 0xBF ∧
      0x80 ≤ d ∧ d ≤ 0xBF ∧ cp = a % 8 * 262144 + b % 64 * 4096 + c % 64 * 64 + d % 64) ↔
    (0x10000 ≤ cp ∧ cp ≤ 0x10FFFF ∧
      a = 0xF0 + cp / 262144 ∧ b = 0x80 + cp / 4096 % 64 ∧ c = 0x80 + cp / 64 % 64 ∧ d = 0x80 + cp % 64) := by omega

theorem ite_le_iff {c : Prop} [Decidable c] {a b x : Nat} :
    (if c then a else b) ≤ x ↔ (c → a ≤ x) ∧ (¬c → b ≤ x) := by
  split <;> simp [*]

theorem le_ite_iff {c : Prop} [Decidable c] {a b x : Nat} :
    x ≤ (if c then a else b) ↔ (c → x ≤ a) ∧ (¬c → x ≤ b) := by
  split <;> simp [*]

theorem Rune.Valid.decode1_eq {r : Rune} (h : r.Valid) (tl : List UInt8) : decode1 r.b0 (r.more ++ tl) = r := by
  have c {b : UInt8} (h1 : 0x80 ≤ b.toNat) (h2 : b.toNat ≤ 0xBF) : cont b = true := by simp [cont, h1, h2]
  unfold decode1
  cases h with
  | one h => exact if_pos h
  | two h1 h2 h3 h4 =>
    simp only []
    rw [if_neg (by omega), if_neg (by omega), if_pos h2]
    exact if_pos (c h3 h4)
  | three h1 h2 h3 h4 h5 h6 h7 h8 =>
    simp only []
    rw [if_neg (by omega), if_neg (by omega), if_neg (by omega), if_pos h2]
    refine if_pos ?_
    simp only [c h7 h8, Bool.and_eq_true, decide_eq_true_eq, beq_iff_eq, ite_le_iff, le_ite_iff]
    exact ⟨⟨⟨h5, fun _ => h3⟩, h6, fun _ => h4⟩, trivial⟩
  | four h1 h2 h3 h4 h5 h6 h7 h8 h9 h10 =>
    simp only []
    rw [if_neg (by omega), if_neg (by omega), if_neg (by omega), if_neg (by omega), if_pos h2]
    refine if_pos ?_
    simp only [c h7 h8, c h9 h10, Bool.and_eq_true, decide_eq_true_eq, beq_iff_eq, ite_le_iff, le_ite_iff]
    exact ⟨⟨⟨⟨h5, fun _ => h3⟩, h6, fun _ => h4⟩, trivial⟩, trivial⟩

theorem decode1_spec (b0 : UInt8) (rest : List UInt8) :
    (∃ cp more tl, rest = more ++ tl ∧ Rune.Valid ⟨cp, b0, more⟩ ∧ decode1 b0 rest = ⟨cp, b0, more⟩) ∨
    (0x80 ≤ b0.toNat ∧ decode1 b0 rest = ⟨0xFFFD, b0, []⟩) := by
  have bad : ∀ {P : Prop}, ¬ b0.toNat < 0x80 → P ∨ (0x80 ≤ b0.toNat ∧ (⟨0xFFFD, b0, []⟩ : Rune) = ⟨0xFFFD, b0, []⟩) :=
    fun h => .inr ⟨by omega, rfl⟩
  unfold decode1
  by_cases c1 : b0.toNat < 0x80
  · rw [if_pos c1]; exact .inl ⟨_, [], rest, rfl, .one c1, rfl⟩
  rw [if_neg c1]
  by_cases c2 : b0.toNat < 0xC2
  · rw [if_pos c2]; exact bad c1
  rw [if_neg c2]
  by_cases c3 : b0.toNat < 0xE0
  · rw [if_pos c3]
    match rest with
    | [] => exact bad c1
    | b1 :: tl =>
      dsimp only
      by_cases k : cont b1 = true
      · rw [if_pos k]
        simp only [cont, Bool.and_eq_true, decide_eq_true_eq] at k
        exact .inl ⟨_, [b1], tl, rfl, .two (by omega) c3 k.1 k.2, rfl⟩
      · rw [if_neg k]; exact bad c1
  rw [if_neg c3]
  by_cases c4 : b0.toNat < 0xF0
  · rw [if_pos c4]
    match rest with
    | [] | [_] => exact bad c1
    | b1 :: b2 :: tl =>
      simp only [cont, Bool.and_eq_true, decide_eq_true_eq, beq_iff_eq, ite_le_iff, le_ite_iff]
      split
      · rename_i k
        exact .inl ⟨_, [b1, b2], tl, rfl, .three (by omega) c4 (by omega) (by omega) (by omega) (by omega) (by omega) (by omega), rfl⟩
      · exact bad c1
  rw [if_neg c4]
  by_cases c5 : b0.toNat < 0xF5
  · rw [if_pos c5]
    match rest with
    | [] | [_] | [_, _] => exact bad c1
    | b1 :: b2 :: b3 :: tl =>
      simp only [cont, Bool.and_eq_true, decide_eq_true_eq, beq_iff_eq, ite_le_iff, le_ite_iff]
      split
      · rename_i k
        exact .inl ⟨_, [b1, b2, b3], tl, rfl, .four (by omega) c5 (by omega) (by omega) (by omega) (by omega) (by omega) (by omega) (by omega) (by omega), rfl⟩
      · exact bad c1
  · rw [if_neg c5]; exact bad c1
theorem decode1_b0 (b0 : UInt8) (rest : List UInt8) : (decode1 b0 rest).b0 = b0 := by
  rcases decode1_spec b0 rest with ⟨_, _, _, _, _, h⟩ | ⟨_, h⟩ <;> rw [h]

theorem decode1_more (b0 : UInt8) (rest : List UInt8) :
    (decode1 b0 rest).more ++ rest.drop (decode1 b0 rest).more.length = rest := by
  rcases decode1_spec b0 rest with ⟨_, _, tl, rfl, _, h⟩ | ⟨_, h⟩ <;> rw [h]
  · rw [List.drop_left]
  · rfl

theorem decode1_valid {b0 : UInt8} {rest : List UInt8}
    (h : (decode1 b0 rest).cp ≠ 0xFFFD ∨ (decode1 b0 rest).more ≠ []) : (decode1 b0 rest).Valid := by
  rcases decode1_spec b0 rest with ⟨_, _, _, _, hv, h'⟩ | ⟨_, h'⟩ <;> rw [h'] at h ⊢
  · exact hv
  · simp at h

theorem Rune.Valid.cont {r : Rune} (h : r.Valid) : Spok.cont r.b0 = false ∧ ∀ b ∈ r.more, Spok.cont b = true := by
  cases h <;> simp [Spok.cont] <;> omega

theorem decode1_cases (b0 : UInt8) (rest : List UInt8) :
    (b0.toNat < 128 ∧ decode1 b0 rest = ⟨b0.toNat, b0, []⟩) ∨
    (128 ≤ (decode1 b0 rest).cp ∧ ∀ b ∈ (decode1 b0 rest).bytes, 128 ≤ b.toNat) := by
  rcases decode1_spec b0 rest with ⟨_, _, _, _, hv, h⟩ | ⟨h0, h⟩ <;> rw [h]
  · cases hv with
    | one h1 => exact .inl ⟨h1, rfl⟩
    | _ =>
      refine .inr ⟨by dsimp only; omega, ?_⟩
      simp only [Rune.bytes, List.mem_cons, List.not_mem_nil, or_false, forall_eq_or_imp, forall_eq]
      omega
  · exact .inr ⟨by simp, by simp [Rune.bytes, h0]⟩

/-- A rune as `decode1` produces it: an ASCII code point is carried by exactly its own byte, and every
    byte of a non-ASCII rune (a multi-byte sequence, or an invalid byte decoded to U+FFFD) is ≥ 0x80. -/
def RuneGood (r : Rune) : Prop :=
  (r.cp < 128 → r.more = [] ∧ r.b0.toNat = r.cp) ∧ (128 ≤ r.cp → ∀ b ∈ r.bytes, 128 ≤ b.toNat)

theorem RuneGood.w_eq_one {r : Rune} (h : RuneGood r) (hc : r.cp < 128) : r.w = 1 := by
  simp [Rune.w, (h.1 hc).1]

theorem decode1_good (b0 : UInt8) (rest : List UInt8) : RuneGood (decode1 b0 rest) := by
  rcases decode1_cases b0 rest with ⟨h0, h⟩ | ⟨h1, h2⟩
  · rw [h]; exact ⟨fun _ => ⟨rfl, rfl⟩, fun h => absurd h (by dsimp only; omega)⟩
  · exact ⟨fun h => by omega, fun _ => h2⟩

/-! ## `decodeAll` -/

theorem decodeAll_cons (b0 : UInt8) (rest : List UInt8) :
    decodeAll (b0 :: rest) = decode1 b0 rest :: decodeAll (rest.drop (decode1 b0 rest).more.length) := by
  rw [decodeAll]; rfl

theorem decodeAll_induction {P : List UInt8 → Prop} (nil : P [])
    (cons : ∀ b0 rest, P (rest.drop (decode1 b0 rest).more.length) → P (b0 :: rest)) : ∀ bs, P bs := by
  intro bs
  induction h : bs.length using Nat.strongRecOn generalizing bs with
  | _ n ih =>
    cases bs with
    | nil => exact nil
    | cons b0 rest => exact cons b0 rest (ih _ (by subst h; simp; omega) _ rfl)

theorem decodeAll_mem {bs : List UInt8} {r : Rune} : r ∈ decodeAll bs → ∃ b0 rest, r = decode1 b0 rest := by
  induction bs using decodeAll_induction with
  | nil => simp [decodeAll]
  | cons b0 rest ih =>
    rw [decodeAll_cons, List.mem_cons]
    rintro (rfl | h)
    · exact ⟨b0, rest, rfl⟩
    · exact ih h

@[simp] theorem flat_nil : flat [] = [] := rfl
@[simp] theorem flat_cons (r : Rune) (rs : List Rune) : flat (r :: rs) = r.bytes ++ flat rs := by simp [flat]
@[simp] theorem flat_append (a b : List Rune) : flat (a ++ b) = flat a ++ flat b := by simp [flat]

theorem flat_decodeAll (bs : List UInt8) : flat (decodeAll bs) = bs := by
  induction bs using decodeAll_induction with
  | nil => simp [decodeAll, flat]
  | cons b0 rest ih =>
    rw [decodeAll_cons, flat_cons, ih, Rune.bytes, decode1_b0, List.cons_append, decode1_more]

theorem mem_decodeAll_cases {bs : List UInt8} {r : Rune} (hr : r ∈ decodeAll bs) :
    (r.b0.toNat < 128 ∧ r = ⟨r.b0.toNat, r.b0, []⟩) ∨ (128 ≤ r.cp ∧ ∀ b ∈ r.bytes, 128 ≤ b.toNat) := by
  obtain ⟨b0, rest, rfl⟩ := decodeAll_mem hr
  rw [decode1_b0]
  exact decode1_cases b0 rest

theorem runeGood_of_mem_decodeAll {bs : List UInt8} {r : Rune} (hr : r ∈ decodeAll bs) : RuneGood r := by
  obtain ⟨b0, rest, rfl⟩ := decodeAll_mem hr
  exact decode1_good b0 rest

theorem valid_of_mem_decodeAll {bs : List UInt8} {r : Rune} (hr : r ∈ decodeAll bs)
    (h : r.cp ≠ 0xFFFD ∨ r.more ≠ []) : r.Valid := by
  obtain ⟨b0, rest, rfl⟩ := decodeAll_mem hr
  exact decode1_valid h

theorem decodeAll_flat_append {ws : List Rune} (h : ∀ r ∈ ws, ∀ tl, decode1 r.b0 (r.more ++ tl) = r)
    (tl : List UInt8) : decodeAll (flat ws ++ tl) = ws ++ decodeAll tl := by
  induction ws with
  | nil => rfl
  | cons r ws ih =>
    rw [flat_cons, Rune.bytes, List.append_assoc, List.cons_append, decodeAll_cons, h r (by simp), List.drop_left,
      ih fun x hx => h x (by simp [hx])]
    rfl

theorem Rune.Valid.decodeAll_cons {r : Rune} (h : r.Valid) (tl : List UInt8) :
    decodeAll (r.bytes ++ tl) = r :: decodeAll tl := by
  simpa [flat] using decodeAll_flat_append (ws := [r]) (by simpa using h.decode1_eq) tl

/-- `b` is empty or begins with a byte that is not a UTF-8 continuation byte -/
def NonCont : List UInt8 → Prop
  | [] => True
  | b :: _ => cont b = false

theorem decode1_append (b0 : UInt8) (rest b : List UInt8) (h : NonCont b) :
    decode1 b0 (rest ++ b) = decode1 b0 rest := by
  -- a valid rune at the head of `rest` is one at the head of `rest ++ b` ...
  have ext : ∀ {r : Rune}, r.Valid → r.b0 = b0 → ∀ {tl}, rest = r.more ++ tl → decode1 b0 (rest ++ b) = r := by
    rintro r hv rfl tl rfl; rw [List.append_assoc, hv.decode1_eq]
  rcases decode1_spec b0 (rest ++ b) with ⟨cp, more, tl, hr, hv, h1⟩ | ⟨_, h1⟩
  · -- ... and conversely: its continuation bytes cannot reach into `b`
    rw [h1]
    rcases List.append_eq_append_iff.mp hr with ⟨a', rfl, hb⟩ | ⟨c', rfl, -⟩
    · cases a' with
      | nil => rw [List.append_nil] at hv ⊢; exact (List.append_nil rest ▸ hv.decode1_eq []).symm
      | cons x a' =>
        have := hv.cont.2 x (by simp)
        simp [hb, NonCont, this] at h
    · exact (hv.decode1_eq c').symm
  · rcases decode1_spec b0 rest with ⟨cp, more, tl, hr, hv, h2⟩ | ⟨_, h2⟩
    · rw [h2]; exact ext hv rfl hr
    · rw [h1, h2]

theorem decodeAll_append (a b : List UInt8) (h : NonCont b) : decodeAll (a ++ b) = decodeAll a ++ decodeAll b := by
  induction a using decodeAll_induction with
  | nil => simp [decodeAll]
  | cons b0 rest ih =>
    rw [List.cons_append, decodeAll_cons, decodeAll_cons, decode1_append b0 rest b h, List.cons_append, ← ih]
    have hr := decode1_more b0 rest
    generalize (decode1 b0 rest).more = m at hr ⊢
    rw [← hr, List.append_assoc, List.drop_left, List.drop_left]

/-- a piece of text that decodes to itself whatever (non-continuation) bytes follow it -/
def SelfDec (v : List Rune) : Prop := ∀ b, NonCont b → decodeAll (flat v ++ b) = v ++ decodeAll b

theorem selfDec_nil : SelfDec [] := by intro b _; simp [flat]

theorem asc_valid {c : Nat} (hc : c < 128) : (asc c).Valid := by
  have h1 : (UInt8.ofNat c).toNat = c := by simp [UInt8.toNat_ofNat']; omega
  have := Rune.Valid.one (b0 := UInt8.ofNat c) (by omega)
  rwa [h1] at this

theorem selfDec_asc (c : Nat) (hc : c < 128) : SelfDec [asc c] := by
  intro b _
  simpa [flat] using (asc_valid hc).decodeAll_cons b

theorem SelfDec.decode {v : List Rune} (h : SelfDec v) : decodeAll (flat v) = v := by
  have := h [] trivial
  simpa [decodeAll] using this

/-- self-decoding is a property of the text alone -/
theorem selfDec_iff {v : List Rune} : SelfDec v ↔ decodeAll (flat v) = v :=
  ⟨SelfDec.decode, fun h b hb => by rw [decodeAll_append _ _ hb, h]⟩

theorem SelfDec.append {a b : List Rune} (ha : SelfDec a) (hb : SelfDec b) (hnc : b = [] ∨ NonCont (flat b)) :
    SelfDec (a ++ b) := by
  rcases hnc with rfl | hnc
  · rwa [List.append_nil]
  · rw [selfDec_iff, flat_append, ha _ hnc, hb.decode]

end Spok
