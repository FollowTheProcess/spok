import Spok.Lemmas.LexStep
/-! # The lexer's state graph, compared with the Go source

`nextTags t` (`Lemmas/LexStep.lean`) lists every tag the state function of `t` can hand over to, and
`stepTag_next` (`Lemmas/LexTerm.lean`) proves the model never leaves that list.  Here are the definitions with
which `Props/Facts.lean` compares the list, state function by state function, with what the *Go source* returns
from the corresponding `lexXxx` (extracted from its AST on every run), so that a new transition in the Go
lexer breaks a proof obligation. -/
namespace Spok

/-- the Go name of the state function a tag stands for -/
def Tag.goName : Tag → String
  | .start => "lexStart" | .hash => "lexHash" | .comment => "lexComment" | .taskKeyword => "lexTaskKeyword"
  | .leftParen => "lexLeftParen" | .rightParen => "lexRightParen" | .outputOp => "lexOutputOperator"
  | .leftBrace => "lexLeftBrace" | .rightBrace => "lexRightBrace" | .taskBody => "lexTaskBody"
  | .taskCommands => "lexTaskCommands" | .taskName => "lexTaskName" | .ident => "lexIdent" | .args => "lexArgs"
  | .comma => "lexComma" | .declare => "lexDeclare" | .string => "lexString" | .declString => "lexDeclaredString"
  | .done => "nil" | .spin => "spin"

def Tag.live : List Tag :=
  [.start, .hash, .comment, .taskKeyword, .leftParen, .rightParen, .outputOp, .leftBrace, .rightBrace, .taskBody,
   .taskCommands, .taskName, .ident, .args, .comma, .declare, .string, .declString]

/-- insertion sort on strings, for comparing sets given as lists -/
def sortStrings (l : List String) : List String := l.foldr (fun s acc => (acc.takeWhile (· < s)) ++ s :: acc.dropWhile (· < s)) []

/-- the state functions a tag can hand over to, as sorted Go names (ends of the scan — `nil`, errors, the
    model's fuel outcome — left out) -/
def modelEdges (t : Tag) : List String :=
  sortStrings (((nextTags t).filter (fun x => !x.final)).map Tag.goName)

/-- the same from the extracted facts: what `lexXxx` returns, minus `nil` and errors -/
def goEdges (facts : List (String × List String)) (t : Tag) : Option (List String) :=
  (facts.lookup t.goName).map fun ts => sortStrings (ts.filter (fun x => x != "nil" && x != "error"))

end Spok
