import Spok.Find
/-! # The loop of `Find` computes its specification: the nearest candidate among the directories at or above the start
(`findUp_spec`, `find_eq_spec`); the early exits of the loop are sound because everything above a strict ancestor of `stop`
is one too. -/
namespace Spok.Find

theorem isAbove_iff {d o : Dir} : isAbove d o = true ↔ d <+: o ∧ d.length < o.length := by
  simp [isAbove, List.isPrefixOf_iff_prefix]

theorem isAbove_of_prefix {d d' stop : Dir} (h : isAbove d stop = true) (hp : d' <+: d) :
    isAbove d' stop = true := by
  rw [isAbove_iff] at *
  exact ⟨hp.trans h.1, Nat.lt_of_le_of_lt hp.length_le h.2⟩

theorem upsRev_prefix (r : List String) : ∀ d ∈ upsRev r, d <+: r.reverse := by
  induction r with
  | nil => simp [upsRev]
  | cons c up ih =>
    intro d hd
    simp only [upsRev, List.mem_cons] at hd
    rcases hd with rfl | hd
    · exact List.prefix_refl _
    · have := ih d hd
      rw [List.reverse_cons]
      exact this.trans (List.prefix_append _ _)

theorem prefix_mem_upsRev (r : List String) : ∀ d, d <+: r.reverse → d ∈ upsRev r := by
  induction r with
  | nil => intro d hd; simp at hd; simp [upsRev, hd]
  | cons c up ih =>
    intro d hd
    rw [List.reverse_cons, List.prefix_concat_iff] at hd
    simp only [upsRev, List.mem_cons]
    rcases hd with hd | hd
    · left; simp [hd]
    · right; exact ih d hd

theorem findUp_spec (fs : FS) (stop : Dir) (r : List String) :
    findUp fs stop r =
      match (upsRev r).find? (candidate fs stop) with
      | some d => .found d
      | none => .notFound := by
  induction r with
  | nil =>
    simp only [findUp, upsRev, List.find?_cons, List.find?_nil, candidate]
    cases isAbove [] stop <;> cases hasSpokfile (fs []) <;> simp
  | cons c up ih =>
    have rest_above : isAbove up.reverse stop = true →
        (upsRev up).find? (candidate fs stop) = none := by
      intro h
      rw [List.find?_eq_none]
      intro d hd
      simp [candidate, isAbove_of_prefix h (upsRev_prefix up d hd)]
    have hpre : up.reverse <+: up.reverse ++ [c] := List.prefix_append _ _
    have hlen : up.reverse.length < (up.reverse ++ [c]).length := by simp
    simp only [findUp, upsRev, List.find?_cons, List.reverse_cons]
    generalize up.reverse ++ [c] = start at hpre hlen ⊢
    by_cases h1 : isAbove start stop = true
    · simp [candidate, h1, rest_above (isAbove_of_prefix h1 hpre)]
    · by_cases h2 : hasSpokfile (fs start) = true
      · simp [candidate, h1, h2]
      · by_cases h3 : start = stop
        · subst h3
          have hab : isAbove up.reverse start = true := isAbove_iff.2 ⟨hpre, hlen⟩
          simp [candidate, h1, h2, rest_above hab]
        · simp [candidate, h1, h2, h3, ih]

theorem find_eq_spec (fs : FS) (start stop : Dir) : find fs start stop = spec fs start stop :=
  findUp_spec fs stop start.reverse

theorem spec_eq_found {fs : FS} {start stop d : Dir} :
    spec fs start stop = .found d ↔ (ancestors start).find? (candidate fs stop) = some d := by
  unfold spec; cases (ancestors start).find? (candidate fs stop) <;> simp

theorem spec_eq_notFound {fs : FS} {start stop : Dir} :
    spec fs start stop = .notFound ↔ (ancestors start).find? (candidate fs stop) = none := by
  unfold spec; cases (ancestors start).find? (candidate fs stop) <;> simp

end Spok.Find
