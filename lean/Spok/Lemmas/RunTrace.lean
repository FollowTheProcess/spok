import Spok.Lemmas.Run
import Spok.Judge.Run
/-! # One micro-step of the run machine as a labelled transition (`step_shape`), the control invariant `TInv` that ties
    the machine's ghost and log to the judges' replay, the judges' per-entry tests along the log, and termination -/
namespace Spok.Run
open Spok.Judge.Run

variable (digest : Items → Digest)

theorem iter_preserves (P : St → Prop) (hstep : ∀ s, P s → P (step digest s)) :
    ∀ (k : Nat) (s : St), P s → P (iter digest k s)
  | 0, _, h => h
  | k + 1, s, h => iter_preserves P hstep k (step digest s) (hstep s h)

theorem iter_preserves₂ (P Q : St → Prop) (hP : ∀ s, P s → P (step digest s)) (hQ : ∀ s, P s → Q s → Q (step digest s))
    (k : Nat) (s : St) (hp : P s) (hq : Q s) : Q (iter digest k s) :=
  (iter_preserves digest (fun s => P s ∧ Q s) (fun s h => ⟨hP s h.1, hQ s h.1 h.2⟩) k s ⟨hp, hq⟩).2

theorem ghostTrace_append (inp : Name → Option Inputs) (L : Name → Option Items) (tr : List (Name × Out)) (e : Name × Out) :
    ghostTrace inp L (tr ++ [e]) = ghostStep inp (ghostTrace inp L tr) e := by
  simp [ghostTrace, List.foldl_append]

theorem checkTrace_append (chk : (Name → Option Items) → Name × Out → Bool) (inp : Name → Option Inputs) :
    ∀ (tr : List (Name × Out)) (L : Name → Option Items) (e : Name × Out),
      checkTrace chk inp L (tr ++ [e]) = (checkTrace chk inp L tr && chk (ghostTrace inp L tr) e)
  | [], L, e => by simp [checkTrace, ghostTrace]
  | a :: tr, L, e => by
    simp only [List.cons_append, checkTrace, checkTrace_append chk inp tr, ghostTrace, List.foldl_cons, Bool.and_assoc]

/-- skips leave the ghost alone, so the Runner calls alone determine it -/
theorem ghostTrace_filter (inp : Name → Option Inputs) :
    ∀ (tr : List (Name × Out)) (L : Name → Option Items), ghostTrace inp L (tr.filter isRun) = ghostTrace inp L tr
  | [], _ => rfl
  | (t, o) :: tr, L => by
    cases o <;> simp [List.filter, isRun, ghostTrace, ghostStep] <;> exact ghostTrace_filter inp tr _

theorem checkTrace_c01_filter (inp : Name → Option Inputs) :
    ∀ (tr : List (Name × Out)) (L : Name → Option Items), checkTrace (c01Entry inp) inp L (tr.filter isRun) = true
  | [], _ => rfl
  | (t, o) :: tr, L => by
    cases o <;> simp [List.filter, isRun, checkTrace, c01Entry] <;> exact checkTrace_c01_filter inp tr _

/-! ## the shape of one micro-step, as far as the log, the todo list and the ghost are concerned -/

theorem step_force (s : St) : (step digest s).force = s.force := by
  have mv := step_moves digest s
  generalize step digest s = s' at mv ⊢
  cases mv <;> rfl

/-- pcs in the order an invocation passes through them on one task; `step_shape`: only `skip` and `next` ever go up -/
def rank : Pc → Nat
  | .boot => 8 | .initializing => 7 | .initWriting => 6 | .decide => 5
  | .invalidating _ => 4 | .invalidated _ => 3 | .executed _ => 2 | .committing => 1
  | .finished => 0 | .cacheError => 0 | .hashError => 0

theorem rank_eq_zero {pc : Pc} : rank pc = 0 ↔ pc.terminal = true := by
  cases pc <;> simp [rank, Pc.terminal]

/-- One micro-step as a labelled transition: `quiet` steps leave log, todo list and ghost alone and go down the `rank`
    (unless the pc is terminal); the others are the three events of a task's passage. -/
inductive Shape (s s' : St) : Prop where
  | quiet (hout : s'.out = s.out) (htodo : s'.todo = s.todo) (hlast : s'.last = s.last)
      (hrank : s.pc.terminal = false → rank s'.pc < rank s.pc)
  | skip (t : TaskIn) (rest : List TaskIn) (hpc : s.pc = .decide) (hto : s.todo = t :: rest) (hr : t.readable = true)
      (hskip : skipTest digest s t = true) (hout : s'.out = s.out ++ [(t.name, .skipped)]) (htodo : s'.todo = rest)
      (hlast : s'.last = s.last) (hpc' : s'.pc = .decide)
  | exec (old : Option Digest) (t : TaskIn) (rest : List TaskIn) (hpc : s.pc = .invalidated old) (hto : s.todo = t :: rest)
      (hout : s'.out = s.out ++ [(t.name, res t)]) (htodo : s'.todo = s.todo)
      (hlast : s'.last = if t.ok then upd s.last t.name (some t.inp.items) else s.last) (hpc' : s'.pc = .executed old)
  | next (t : TaskIn) (rest : List TaskIn) (hpc : (∃ old, s.pc = .executed old) ∨ s.pc = .committing) (hto : s.todo = t :: rest)
      (hout : s'.out = s.out) (htodo : s'.todo = rest) (hlast : s'.last = s.last) (hpc' : s'.pc = .decide)

theorem step_shape (s : St) : Shape digest s (step digest s) := by
  have mv := step_moves digest s
  generalize step digest s = s' at mv ⊢
  cases mv with
  | skip t rest hpc hto hr hskip => exact .skip t rest hpc hto hr hskip rfl rfl rfl hpc
  | run old t rest hpc hto => exact .exec old t rest hpc hto rfl rfl rfl rfl
  | nothingToRecord old t rest hpc hto => exact .next t rest (.inl ⟨old, hpc⟩) hto rfl rfl rfl rfl
  | commitWrite t rest hpc hto => exact .next t rest (.inr hpc) hto rfl rfl rfl rfl
  | halted hpc => exact .quiet rfl rfl rfl (by simp [hpc])
  | cacheAbsent hpc | cacheUnparsable hpc | cacheLoaded _ hpc | initTruncate hpc | initWrite hpc | allDone hpc
  | hashFails _ _ hpc | invalidate _ _ hpc | uncached _ _ hpc | invalidateWrite _ hpc | record _ _ _ hpc
  | noTaskInvalidated _ hpc | noTaskExecuted _ hpc | noTaskCommitting hpc => exact .quiet rfl rfl rfl (by simp [rank, hpc])

theorem step_todo_mem (s : St) {u : TaskIn} (hu : u ∈ (step digest s).todo) : u ∈ s.todo := by
  cases step_shape digest s with
  | quiet _ htodo | exec _ _ _ _ _ _ htodo => rwa [htodo] at hu
  | skip _ _ _ hto _ _ _ htodo | next _ _ _ hto _ htodo => rw [hto]; exact List.mem_cons_of_mem _ (htodo ▸ hu)

theorem iter_todo_mem : ∀ (k : Nat) (s : St) {u : TaskIn}, u ∈ (iter digest k s).todo → u ∈ s.todo
  | 0, _, _, hu => hu
  | k + 1, s, _, hu => step_todo_mem digest s (iter_todo_mem k _ hu)

/-! ## `TInv`: the control invariant — the machine's ghost is the judges' ghost replay of the machine's log, and what
    each pc says about how it was reached (`d0`: the disk at the start of the invocation) -/

variable (inp0 : Name → Option Inputs) (L0 : Name → Option Items) (d0 : Disk)

def TodoOk (todo : List TaskIn) : Prop := ∀ t ∈ todo, t.readable = true → inp0 t.name = some t.inp

def TPc (s : St) : Prop :=
  match s.pc, s.todo with
  | .boot, _ => s.disk = d0
  | .cacheError, _ => d0 = .corrupt
  | .hashError, t :: _ => t.readable = false
  | .hashError, [] => False
  | .invalidating _, t :: _ => t.readable = true
  | .invalidated _, t :: _ => t.readable = true
  | .executed _, t :: _ => (t.name, res t) ∈ s.out
  | .committing, t :: _ => (t.name, res t) ∈ s.out
  | .finished, todo => todo = []
  | _, _ => True

def TInv (s : St) : Prop := s.last = ghostTrace inp0 L0 s.out ∧ TodoOk inp0 s.todo ∧ TPc d0 s

theorem step_tpc (s : St) (hp : TPc d0 s) : TPc d0 (step digest s) := by
  have mv := step_moves digest s
  generalize step digest s = s' at mv ⊢
  obtain ⟨force, todo, pc, mem, disk, last, out⟩ := s
  -- the row of `TPc` at the new pc is what the branch of `step` just taken has tested or appended to the log; the old row
  -- is needed only where it is handed on: `boot → cacheError` (`s.disk = d0`), `invalidating → invalidated`,
  -- `executed → committing`, and at the terminal pcs
  cases mv with
  | cacheAbsent | cacheLoaded | initTruncate | initWrite | nothingToRecord | commitWrite => trivial
  | cacheUnparsable hpc hd => subst hpc hd; exact hp.symm
  | allDone _ hto | noTaskInvalidated _ _ hto | noTaskExecuted _ _ hto | noTaskCommitting _ hto => exact hto
  | hashFails _ _ _ hto hr | invalidate _ _ _ hto hr | uncached _ _ _ hto hr => subst hto; exact hr
  | skip _ _ hpc => subst hpc; trivial
  | invalidateWrite old hpc =>
    subst hpc
    cases todo with
    | nil => trivial
    | cons t rest => exact hp
  | run _ _ _ _ hto => subst hto; exact List.mem_append_right _ (.head _)
  | record _ _ _ hpc hto => subst hpc hto; exact hp
  | halted => exact hp

theorem step_tinv (s : St) (h : TInv inp0 L0 d0 s) : TInv inp0 L0 d0 (step digest s) := by
  obtain ⟨hl, hto, hp⟩ := h
  refine ⟨?_, fun t ht => hto t (step_todo_mem digest s ht), step_tpc digest d0 s hp⟩
  cases step_shape digest s with
  | quiet hout _ hlast | next _ _ _ _ hout _ hlast => rw [hout, hlast]; exact hl
  | skip t _ _ _ _ _ hout _ hlast => rw [hout, hlast, ghostTrace_append]; exact hl
  | exec old t rest hpc hto' hout _ hlast =>
    have hin := hto t (by simp [hto']) (by simpa only [TPc, hpc, hto'] using hp)
    rw [hout, hlast, ghostTrace_append, ← hl]
    cases hok : t.ok <;> simp [res, hok, ghostStep, hin]

/-! ## the judges' per-entry tests hold of the machine's log -/

theorem isRun_res (t : TaskIn) : isRun (t.name, res t) = true := by
  unfold res; cases t.ok <;> rfl

theorem step_c01 (hnc : ¬ Collision digest) (s : St) (hI : Inv digest s) (hT : TInv inp0 L0 d0 s)
    (hC : checkTrace (c01Entry inp0) inp0 L0 s.out = true) :
    checkTrace (c01Entry inp0) inp0 L0 (step digest s).out = true := by
  cases step_shape digest s with
  | quiet hout _ _ => rw [hout]; exact hC
  | skip t rest hpc hto hr hskip hout _ _ =>
    rw [hout, checkTrace_append, hC, ← hT.1]
    have hin := hT.2.1 t (by simp [hto]) hr
    rcases skip_sound digest s hI t hskip with h | h
    · simp [c01Entry, hin, h]
    · exact absurd h hnc
  | exec old t rest hpc hto hout _ _ =>
    rw [hout, checkTrace_append, hC]
    unfold res; cases t.ok <;> simp [c01Entry]
  | next _ _ _ _ hout _ _ => rw [hout]; exact hC

theorem step_c02 (s : St) (hC : CInv digest s) (hT : TInv inp0 L0 d0 s)
    (hK : checkTrace (c02Entry s.force inp0) inp0 L0 s.out = true) :
    checkTrace (c02Entry s.force inp0) inp0 L0 (step digest s).out = true := by
  cases step_shape digest s with
  | quiet hout _ _ => rw [hout]; exact hK
  | skip t rest hpc hto hr hskip hout _ _ =>
    rw [hout, checkTrace_append, hK, ← hT.1]
    have hin := hT.2.1 t (by simp [hto]) hr
    have hn : t.inp.n > 0 := by simp [skipTest] at hskip; exact hskip.1.2
    have : (t.inp.n != 0) = true := by simp; omega
    simp [c02Entry, hin, this]
  | exec old t rest hpc hto hout _ _ =>
    rw [hout, checkTrace_append, hK, ← hT.1]
    have hr : t.readable = true := by
      have := hT.2.2; simp only [TPc, hpc, hto] at this; exact this
    have hin := hT.2.1 t (by simp [hto]) hr
    simp only [CInv, hpc, hto] at hC
    obtain ⟨_, _, _, _, hst⟩ := hC
    have hb : (!s.force && s.last t.name == some t.inp.items && !t.inp.items.isEmpty) = false := by
      cases hb : (!s.force && s.last t.name == some t.inp.items && !t.inp.items.isEmpty) with
      | false => rfl
      | true =>
        simp at hb
        exact absurd ⟨hb.1.1, hb.1.2, hb.2⟩ hst
    have hne : (res t != Out.skipped) = true := by unfold res; cases t.ok <;> rfl
    simp [c02Entry, hin, hb, hne]
  | next _ _ _ _ hout _ _ => rw [hout]; exact hK

/-- the invariant behind `c14Ev`: under `--force` every log entry is a run, and every selected task is still to do or
    has run -/
def FInv (order : List Name) (s : St) : Prop :=
  s.force = true → (∀ e ∈ s.out, isRun e = true) ∧
    (∀ n ∈ order, n ∈ s.todo.map (·.name) ∨ ∃ e ∈ s.out, e.1 = n ∧ isRun e = true)

theorem step_finv (order : List Name) (s : St) (hT : TInv inp0 L0 d0 s) (hF : FInv order s) :
    FInv order (step digest s) := by
  intro hf
  rw [step_force] at hf
  obtain ⟨h1, h2⟩ := hF hf
  cases step_shape digest s with
  | quiet hout htodo _ => rw [hout, htodo]; exact ⟨h1, h2⟩
  | skip t rest hpc hto hr hskip hout _ _ =>
    rw [force_never_skips digest s t hf] at hskip; cases hskip
  | exec old t rest hpc hto hout htodo _ =>
    rw [hout, htodo]
    refine ⟨fun e he => ?_, fun n hn => ?_⟩
    · rcases List.mem_append.mp he with h | h
      · exact h1 e h
      · simp at h; subst h; exact isRun_res t
    · rcases h2 n hn with h | ⟨e, he, h⟩
      · exact .inl h
      · exact .inr ⟨e, List.mem_append_left _ he, h⟩
  | next t rest hpc hto hout htodo _ =>
    rw [hout, htodo]
    refine ⟨h1, fun n hn => ?_⟩
    have hmem : (t.name, res t) ∈ s.out := by
      have := hT.2.2
      rcases hpc with ⟨old, hpc⟩ | hpc <;> (simp only [TPc, hpc, hto] at this; exact this)
    rcases h2 n hn with h | h
    · rw [hto] at h
      simp only [List.map_cons, List.mem_cons] at h
      rcases h with h | h
      · exact .inr ⟨_, hmem, h.symm, isRun_res t⟩
      · exact .inl h
    · exact .inr h

/-! ## termination: every invocation reaches a terminal pc within `fuel` micro-steps -/

def measure (s : St) : Nat := 5 * s.todo.length + rank s.pc

theorem step_terminal (s : St) (h : s.pc.terminal = true) : step digest s = s := by
  unfold step
  split <;> first | rfl | (rename_i hpc; simp [hpc, Pc.terminal] at h)

theorem iter_fixed (k : Nat) (s : St) (h : s.pc.terminal = true) : iter digest k s = s := by
  induction k with
  | zero => rfl
  | succ k ih => simp only [iter, step_terminal digest s h, ih]

theorem step_measure (s : St) (h : s.pc.terminal = false) : measure (step digest s) < measure s := by
  unfold measure
  cases step_shape digest s with
  | quiet _ htodo _ hrank => have := hrank h; rw [htodo]; omega
  | skip t rest hpc hto _ _ _ htodo _ hpc' => simp [htodo, hto, hpc', hpc]
  | exec old t rest hpc _ _ htodo _ hpc' => simp [htodo, hpc', hpc, rank]
  | next t rest hpc hto _ htodo _ hpc' => rcases hpc with ⟨old, hpc⟩ | hpc <;> simp [htodo, hto, hpc', hpc, rank] <;> omega

theorem iter_terminal : ∀ (k : Nat) (s : St), measure s ≤ k → (iter digest k s).pc.terminal = true
  | 0, s, h => rank_eq_zero.mp (by unfold measure at h; show rank s.pc = 0; omega)
  | k + 1, s, h => by
    cases ht : s.pc.terminal with
    | true => rwa [iter_fixed digest _ s ht]
    | false => exact iter_terminal k _ (by have := step_measure digest s ht; omega)

end Spok.Run
