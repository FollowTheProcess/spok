import Spok.Syntax.WF
/-! # The value-level shape of the lexer's token stream (for `parse_wf`)

`StrV inp m ts` refines the type-level stream predicate `Str` of `LexLine`: the *mode* `m` is (an
abstraction of) the lexer state function that will emit the next token, `transV` says which token
types that state can emit and where it goes, and `tokOK` says what the text of a token emitted there
looks like:

* a COMMENT has no newline; an IDENT consists of identifier runes, is non-empty unless it is a task
  name, and does not begin with the keyword when it was scanned from `lexStart`;
* a STRING is `"` ++ s ++ `"` with `strOKB s`; the first COMMAND of a body satisfies `firstCmdOKB`, a
  later one `nextCmdOKB`;
* every such text is a contiguous slice of the input `inp` (`Sl`), followed — for comments and
  commands — by an ASCII rune or the end of the input (`SlA`); this is what the self-decoding of the
  formatted text needs.

Line numbers play no role here. -/
namespace Spok.PW
open Spok

inductive VM where
  | top | atEnd | afterHash | afterTask | needLParen | args | afterRParen | afterOutput | afterIdent
  | afterComma | afterDeclare | afterString | body0 | body1 | closing
  | needRParen | needComma | needLBrace | needString | needIdent | needIdentS
deriving DecidableEq, Repr

/-- what a non-final token of type `ty` does to the mode; `none` = never emitted there -/
def transV : VM → TT → Option VM
  | .top, .hash => some .afterHash
  | .top, .task => some .afterTask
  | .top, .ident => some .afterIdent
  | .afterHash, .comment => some .top
  | .afterTask, .ident => some .needLParen
  | .needLParen, .lparen => some .args
  | .args, .rparen => some .afterRParen
  | .args, .string => some .afterString
  | .args, .ident => some .afterIdent
  | .args, .comma => some .afterComma
  | .args, .lbrace => some .body0
  | .afterRParen, .hash => some .afterHash
  | .afterRParen, .task => some .afterTask
  | .afterRParen, .ident => some .afterIdent
  | .afterRParen, .lbrace => some .body0
  | .afterRParen, .output => some .afterOutput
  | .afterOutput, .string => some .afterString
  | .afterOutput, .lparen => some .args
  | .afterOutput, .ident => some .afterIdent
  | .afterIdent, .lparen => some .args
  | .afterIdent, .declare => some .afterDeclare
  | .afterIdent, .rparen => some .afterRParen
  | .afterIdent, .comma => some .afterComma
  | .afterIdent, .lbrace => some .body0
  | .afterComma, .string => some .afterString
  | .afterComma, .ident => some .afterIdent
  | .afterComma, .rparen => some .afterRParen
  | .afterDeclare, .string => some .top
  | .afterDeclare, .ident => some .afterIdent
  | .afterString, .hash => some .afterHash
  | .afterString, .task => some .afterTask
  | .afterString, .ident => some .afterIdent
  | .afterString, .rparen => some .afterRParen
  | .afterString, .string => some .afterString
  | .afterString, .comma => some .afterComma
  | .afterString, .lbrace => some .body0
  | .body0, .command => some .body1
  | .body0, .rbrace => some .top
  | .body1, .command => some .body1
  | .body1, .rbrace => some .top
  | .closing, .rbrace => some .top
  | .needRParen, .rparen => some .afterRParen
  | .needComma, .comma => some .afterComma
  | .needLBrace, .lbrace => some .body0
  | .needString, .string => some .afterString
  | .needIdent, .ident => some .afterIdent
  | .needIdentS, .ident => some .afterIdent
  | _, _ => none

def Sl (inp v : List Rune) : Prop := ∃ pre post, inp = pre ++ v ++ post

def AscHead : List Rune → Prop
  | [] => True
  | r :: _ => r.cp < 128

def SlA (inp v : List Rune) : Prop := ∃ pre post, inp = pre ++ v ++ post ∧ AscHead post

def StrTokOK (inp v : List Rune) : Prop :=
  ∃ q1 s q2, v = q1 :: s ++ [q2] ∧ q1.cp = QUOTE ∧ q2.cp = QUOTE ∧ strOKB s = true ∧ Sl inp v

/-- the text of a token of type `ty` emitted in mode `m` -/
def tokOK (inp : List Rune) (m : VM) : TT → List Rune → Prop
  | .comment, v => commentOKB v = true ∧ SlA inp v
  | .ident, v => identRunesB v = true ∧ (m ≠ .afterTask → v ≠ []) ∧
      ((m = .top ∨ m = .afterRParen ∨ m = .needIdentS) → kwPrefix v = false) ∧ Sl inp v
  | .string, v => StrTokOK inp v
  | .command, v => (m = .body0 → firstCmdOKB v = true) ∧ (m ≠ .body0 → nextCmdOKB v = true) ∧ SlA inp v
  | _, _ => True

def eofOK : VM → Bool
  | .top | .atEnd | .afterIdent | .afterString | .afterRParen => true
  | _ => false

/-- the last token of a stream: ERROR (never directly after `#` or `task`), or EOF where a statement may end -/
def FinV (m : VM) (t : Tok) : Prop :=
  (t.ty = .error ∧ m ≠ .afterHash ∧ m ≠ .afterTask) ∨ (t.ty = .eof ∧ eofOK m = true)

def StrV (inp : List Rune) : VM → List Tok → Prop
  | _, [] => False
  | m, t :: ts =>
    (ts = [] ∧ FinV m t) ∨ (tokOK inp m t.ty t.val ∧ ∃ m', transV m t.ty = some m' ∧ StrV inp m' ts)

/-- mode inclusion: everything `m1` can emit, `m2` can emit too (with the same successor) -/
def Sub (inp : List Rune) (m1 m2 : VM) : Prop :=
  (∀ t, FinV m1 t → FinV m2 t) ∧
  (∀ ty v m', transV m1 ty = some m' → tokOK inp m1 ty v → transV m2 ty = some m' ∧ tokOK inp m2 ty v)

variable {inp : List Rune}

theorem StrV.sub {m1 m2 : VM} (hs : Sub inp m1 m2) {ts : List Tok} (h : StrV inp m1 ts) : StrV inp m2 ts := by
  cases ts with
  | nil => exact h.elim
  | cons t ts =>
    rcases h with ⟨he, hf⟩ | ⟨hok, m', hm, hr⟩
    · exact Or.inl ⟨he, hs.1 t hf⟩
    · obtain ⟨h1, h2⟩ := hs.2 t.ty t.val m' hm hok
      exact Or.inr ⟨h2, m', h1, hr⟩

/-- the modes in which an identifier must not begin with the keyword -/
def kwM (m : VM) : Bool := m == .top || m == .afterRParen || m == .needIdentS

theorem tokOK_ident {m : VM} {v : List Rune} : tokOK inp m .ident v ↔
    identRunesB v = true ∧ (m ≠ .afterTask → v ≠ []) ∧ (kwM m = true → kwPrefix v = false) ∧ Sl inp v := by
  simp [tokOK, kwM, or_assoc]

/-- mode inclusion as a check: the final tokens, the transitions with their successors, and the two
    conditions on a token's text that depend on the mode -/
def subB (m1 m2 : VM) : Bool :=
  (m1 == .afterHash || m1 == .afterTask || (m2 != .afterHash && m2 != .afterTask)) && (!eofOK m1 || eofOK m2) &&
  TT.all.all fun ty => match transV m1 ty with
    | none => true
    | some m' => transV m2 ty == some m' &&
        (ty != .ident || ((m2 == .afterTask || m1 != .afterTask) && (!kwM m2 || kwM m1))) &&
        (ty != .command || (m1 == .body0) == (m2 == .body0))

theorem TT.mem_all (ty : TT) : ty ∈ TT.all := by cases ty <;> decide

theorem Sub.of_subB {m1 m2 : VM} (h : subB m1 m2 = true) : Sub inp m1 m2 := by
  simp only [subB, Bool.and_eq_true, List.all_eq_true] at h
  obtain ⟨⟨he, hf⟩, ht⟩ := h
  refine ⟨?_, fun ty v m' h1 h2 => ?_⟩
  · rintro t (⟨h1, h2, h3⟩ | ⟨h1, h2⟩)
    · -- `m1` is neither of the two modes, so `he` says `m2` is neither
      refine Or.inl ⟨h1, ?_, ?_⟩ <;> rintro rfl <;> simp [h2, h3] at he
    · exact Or.inr ⟨h1, by simpa [h2] using hf⟩
  · have := ht ty (TT.mem_all ty)
    rw [h1] at this
    simp only [Bool.and_eq_true, beq_iff_eq] at this
    obtain ⟨⟨k1, k2⟩, k3⟩ := this
    refine ⟨k1, ?_⟩
    cases ty
    case ident =>
      simp only [bne_self_eq_false, Bool.false_or, Bool.and_eq_true, Bool.or_eq_true, bne_iff_ne, ne_eq, beq_iff_eq,
        Bool.not_eq_true'] at k2
      rw [tokOK_ident] at h2 ⊢
      obtain ⟨a, b, c, d⟩ := h2
      exact ⟨a, fun hm => b (k2.1.resolve_left hm), fun hm => c (k2.2.resolve_left (by simp [hm])), d⟩
    case command =>
      simp only [bne_self_eq_false, Bool.false_or, beq_iff_eq] at k3
      have hb : (m1 = .body0) ↔ (m2 = .body0) := by rw [← beq_iff_eq (a := m1), k3, beq_iff_eq]
      simpa only [tokOK, ne_eq, hb] using h2
    all_goals exact h2

theorem sub_atEnd_top : Sub inp .atEnd .top := .of_subB rfl

theorem StrV.nil_false {m : VM} (h : StrV inp m []) : False := h

theorem StrV.tail {m : VM} {t : Tok} {ts : List Tok} (h : StrV inp m (t :: ts)) (h1 : t.ty ≠ .eof) (h2 : t.ty ≠ .error) :
    tokOK inp m t.ty t.val ∧ ∃ m', transV m t.ty = some m' ∧ StrV inp m' ts := by
  rcases h with ⟨_, hf⟩ | h
  · rcases hf with ⟨he, _⟩ | ⟨he, _⟩
    · exact absurd he h2
    · exact absurd he h1
  · exact h

theorem StrV.tail_after {m : VM} {t : Tok} {ts : List Tok} (h : StrV inp m (t :: ts)) (hm : m = .afterHash ∨ m = .afterTask) :
    tokOK inp m t.ty t.val ∧ ∃ m', transV m t.ty = some m' ∧ StrV inp m' ts := by
  rcases h with ⟨_, hf⟩ | h
  · rcases hf with ⟨_, h1, h2⟩ | ⟨_, he⟩
    · rcases hm with rfl | rfl
      · exact absurd rfl h1
      · exact absurd rfl h2
    · rcases hm with rfl | rfl <;> simp [eofOK] at he
  · exact h

end Spok.PW
