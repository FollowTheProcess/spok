import Spok.Lemmas.LexTerm
import Spok.Lemmas.WfLex
/-! # The command loop of the lexer, and the whole run, at value level

`livev_lexTaskCommands`: the loop rule `lexTaskCommandsF_ind` with the loop-head invariant `CmdLive`
(`Scan l.right s`: what the loop has scanned of the current command was scanned as command text, in its
real context).  When a command ends — at a newline (`CmdLive.line`), or at the closing brace
(`CmdLive.close`) — the stripped text satisfies `cmdScanOK` (`cmd_tokOK`, via `WfCmd`). -/
namespace Spok.PW
open Spok

variable {inp : List Rune} {l : L}

/-- the state of the command loop at its head: the pending text is `pre ++ s`, where `s` is what the loop
    itself has scanned of the current command and `pre` the letter `lexTaskBody` has read of the first
    command of a body; a later command begins — in what is pending or ahead — with a rune that is not white
    space -/
def CmdSt (first : Bool) (l : L) : Prop :=
  ∃ pre s : List Rune, l.tokRev.reverse = pre ++ s ∧ Scan l.right s ∧
    (first = true → ∃ a, isLetter a = true ∧ pre = [a]) ∧
    (first = false → pre = [] ∧ ∀ x rest, s ++ l.right = x :: rest → isSpace x = false)

def CmdLive (inp : List Rune) (l : L) : Prop := ∃ first, Zt inp (bodyM first) l ∧ CmdSt first l

/-- the loop has taken `zz` (one rune, or one rune and a `{{` / `}}`) from the input as command text -/
theorem CmdSt.extend {first : Bool} {l' : L} {zz : List Rune} (h : CmdSt first l)
    (htr : l'.tokRev.reverse = l.tokRev.reverse ++ zz) (hr : l.right = zz ++ l'.right) (hz : Scan l'.right zz) :
    CmdSt first l' := by
  obtain ⟨pre, s, e, hs, h1, h2⟩ := h
  rw [hr] at hs h2
  refine ⟨pre, s ++ zz, by rw [htr, e, List.append_assoc], hs.append hz, h1, fun hf => ?_⟩
  rw [List.append_assoc]; exact h2 hf

/-- `if lastIs ' ' then pos--` followed by `stripCR`: a blank and carriage returns go back to the input -/
theorem strip_spec (h : Z inp l) {m : L} (hm : stripCR (if l.lastIs SP then l.stepBack else l) = m) :
    ∃ z : List Rune, (∀ x ∈ z, x.cp = CR ∨ x.cp = SP) ∧ l.tokRev.reverse = m.tokRev.reverse ++ z ∧
      m.right = z ++ l.right ∧ m.toks = l.toks ∧ (∀ x ts, m.tokRev = x :: ts → x.cp ≠ CR) ∧ Z inp m := by
  subst hm
  by_cases hsp : l.lastIs SP = true
  · obtain ⟨x, ts, e1, e2, e3, e4, e5, e6⟩ := h.lastIs_true hsp
    rw [if_pos hsp]
    obtain ⟨z, f1, f2, f3, f4, f5, f6⟩ := stripCR_spec e6
    refine ⟨z ++ [x], ?_, ?_, ?_, ?_, f5, f6⟩
    · intro y hy
      simp only [List.mem_append, List.mem_singleton] at hy
      rcases hy with hy | rfl
      · exact Or.inl (f1 y hy)
      · exact Or.inr e2
    · rw [e1, List.reverse_cons, ← e3, f2]; simp
    · rw [f3, e4]; simp
    · rw [f4, e5]
  · rw [if_neg hsp]
    obtain ⟨z, f1, f2, f3, f4, f5, f6⟩ := stripCR_spec h
    exact ⟨z, fun x hx => Or.inl (f1 x hx), f2, f3, f4, f5, f6⟩

theorem bodyM_ne (first : Bool) : bodyM first ≠ .afterHash ∧ bodyM first ≠ .afterTask := by
  cases first <;> exact ⟨by decide, by decide⟩

theorem ascHead_strip {z : List Rune} {r : Rune} {R : List Rune} (hz : ∀ x ∈ z, x.cp = CR ∨ x.cp = SP)
    (hr : r.cp < 128) : AscHead (z ++ r :: R) := by
  cases z with
  | nil => exact hr
  | cons z0 zs => show z0.cp < 128; have := hz z0 (by simp); omega

/-- a command ends: `m` is the state after stripping `z` (a blank, CRs) from the pending text in front of the
    ASCII rune `r`; unless this is a later command of which nothing is left, the COMMAND token is emitted -/
theorem CmdSt.emit {first : Bool} {m : L} {z R : List Rune} {r : Rune} (hz : Zt inp (bodyM first) l)
    (h : CmdSt first l) (hasc : r.cp < 128) (f1 : ∀ x ∈ z, x.cp = CR ∨ x.cp = SP)
    (f2 : l.tokRev.reverse = m.tokRev.reverse ++ z) (f3 : m.right = z ++ r :: R) (f4 : m.toks = l.toks)
    (f5 : ∀ x ts, m.tokRev = x :: ts → x.cp ≠ CR) (f6 : Z inp m) (hne : first = false → m.tokRev ≠ []) :
    Zt inp .body1 (m.emit .command) := by
  obtain ⟨pre, s, e, hs, h1, h2⟩ := h
  refine Zt.emit ⟨f6, hz.2.congr f4⟩ (by cases first <;> rfl) ?_
  refine cmd_tokOK hs (e ▸ f2) f1 (endsWithCp_reverse f5) (f6.sla (f3 ▸ ascHead_strip f1 hasc)) h1 fun hf => ?_
  obtain ⟨rfl, hh⟩ := h2 hf
  refine ⟨rfl, ?_⟩
  cases hv : m.tokRev.reverse with
  | nil => exact absurd (by simpa using hv) (hne hf)
  | cons v vs =>
    rw [List.nil_append] at e
    exact ⟨v, vs, rfl, hh v _ (by rw [← e, f2, hv]; rfl)⟩

namespace CmdLive

/-- a newline: the command ends here, and the loop goes on behind the white space that follows -/
theorem line {r : Rune} {R : List Rune} (h : CmdLive inp l) (hr : l.right = r :: R) (hnl : r.cp = NL) :
    CmdLive inp (endLine l) := by
  obtain ⟨first, hz, hc⟩ := h
  obtain ⟨z, f1, f2, f3, f4, f5, f6⟩ := stripCR_spec hz.1.peek
  rw [L.peek_tokRev] at f2
  rw [L.peek_right, hr] at f3
  rw [L.peek_toks] at f4
  have f1' : ∀ x ∈ z, x.cp = CR ∨ x.cp = SP := fun x hx => Or.inl (f1 x hx)
  refine ⟨false, (hc.emit hz (by omega) f1' f2 f3 f4 f5 f6 fun hf hv => ?_).skipWs,
    [], [], by simp [endLine], .nil, nofun, fun _ => ⟨rfl, skipWs_head _⟩⟩
  -- of a later command something is left: it does not begin with the CRs and the newline
  obtain ⟨pre, s, e, -, -, h2⟩ := hc
  obtain ⟨rfl, hh⟩ := h2 hf
  rw [hv, List.reverse_nil, List.nil_append, e, List.nil_append] at f2
  cases z with
  | nil =>
    have := hh r R (by rw [f2, hr]; rfl)
    rw [isSpace_of_cp hnl isSpaceCp_NL] at this; cases this
  | cons z0 zs =>
    have := hh z0 (zs ++ l.right) (by rw [f2]; rfl)
    rw [isSpace_of_cp (f1 z0 (by simp)) isSpaceCp_CR] at this; cases this

/-- `{{` / `}}`: three runes of command text -/
theorem jump {r : Rune} {R : List Rune} {s : List Nat} (h : CmdLive inp l) (hr : l.right = r :: R) (hnl : r.cp ≠ NL)
    (hs : s = [LBRACE, LBRACE] ∨ s = [RBRACE, RBRACE]) (hp : (l.next).1.hasPrefix s = true) :
    CmdLive inp ((l.next).1.absorb 2) := by
  obtain ⟨first, hz, hc⟩ := h
  have n2 : (l.next).1.right = R := by rw [L.next_right, hr]; rfl
  have n3 := L.next_tokRev_cons hr
  have hb : brace2 R = true := by rcases hs with rfl | rfl <;> simp [← hasPrefix_brace2 hr, hp]
  obtain ⟨b1, b2, R', hR, _, _⟩ := brace2_heads hb
  refine ⟨first, ⟨hz.1.next.absorb 2, hz.2.congr (by simp)⟩, hc.extend (zz := [r, b1, b2]) ?_ ?_ ?_⟩
  · rw [L.absorb_tokRev, n2, n3, hR]; simp
  · rw [L.absorb_right, n2, hr, hR]; rfl
  · rw [L.absorb_right, n2, hR]; exact .triple hnl (hR ▸ hb)

theorem char {r : Rune} {R : List Rune} (h : CmdLive inp l) (hr : l.right = r :: R) (hc : CmdChar r (l.next).1) :
    CmdLive inp (l.next).1 := by
  obtain ⟨first, hz, hs⟩ := h
  obtain ⟨hnl, hb1, hb2, hrb, hh, hasc⟩ := hc
  have n2 : (l.next).1.right = R := by rw [L.next_right, hr]; rfl
  have n3 := L.next_tokRev_cons hr
  have hb : brace2 R = false := by simp [← hasPrefix_brace2 hr, hb1, hb2]
  refine ⟨first, hz.readsTo (.next hr), hs.extend (zz := [r]) (by rw [n3]; simp) (by rw [n2, hr]; rfl) ?_⟩
  rw [n2]; exact .single hnl hb hrb hh hasc

/-- the closing brace: what is left of the last command is emitted, and `lexRightBrace` takes over -/
theorem close {r : Rune} {R : List Rune} (h : CmdLive inp l) (hr : l.right = r :: R) (hrb : r.cp = RBRACE) :
    InvV inp (closeCmd l, .rightBrace) := by
  obtain ⟨first, hz, hc⟩ := h
  have he : Enter (closeCmd l) .rightBrace :=
    ⟨by simp [Tag.spell, L.hasPrefix, closeCmd_right hr hrb, hrb], by simp [closeCmd, Tag.cont]⟩
  refine LiveV.intro rfl he (Or.inl rfl) ?_
  unfold closeCmd
  generalize hm : stripCR (if (l.peek).1.lastIs SP then (l.peek).1.stepBack else (l.peek).1) = m4
  obtain ⟨z, f1, f2, f3, f4, f5, f6⟩ := strip_spec hz.1.peek hm
  rw [L.peek_tokRev] at f2
  rw [L.peek_right, hr] at f3
  rw [L.peek_toks] at f4
  refine Zt.skipWs ?_
  split
  · next hne =>
    exact (hc.emit hz (by omega) f1 f2 f3 f4 f5 f6 fun _ h => by simp [h] at hne).sub (.of_subB rfl)
  · exact Zt.sub ⟨f6, hz.2.congr f4⟩ (by cases first <;> exact .of_subB rfl)

end CmdLive

theorem livev_lexTaskCommands (h : LiveV inp l .taskCommands) : InvV inp (lexTaskCommands l) := by
  obtain ⟨⟨_, a, htr, ha⟩, hz⟩ := h.regular rfl (by decide) (by decide)
  refine lexTaskCommandsF_ind (P := CmdLive inp) (Q := InvV inp) (fun _ _ _ h => h.line) (fun _ _ _ _ h => h.jump)
    (fun _ _ _ h => h.char) (fun _ _ _ h => h.close) ?_ ?_ _ l (Nat.lt_succ_self _)
    ⟨true, hz, [a], [], by rw [htr]; rfl, .nil, fun _ => ⟨a, ha, rfl⟩, nofun⟩
  · rintro l ⟨first, hz, -⟩
    exact (hz.readsTo (.next_any l)).2.error (bodyM_ne first).1 (bodyM_ne first).2
  · rintro l ⟨first, hz, -⟩
    exact (hz.readsTo (.peek l)).2.error (bodyM_ne first).1 (bodyM_ne first).2

theorem livev_stepTag (t : Tag) (h : LiveV inp l t) : InvV inp (stepTag l t) := by
  by_cases ht : t = .taskCommands
  · subst ht; exact livev_lexTaskCommands h
  · exact livev_stepTag_but ht h

theorem lexRunes_strV (rs : List Rune) : StrV rs .top (lexRunes rs).toks := by
  obtain ⟨l, h, e⟩ := lexRunes_inv (I := LiveV rs) (fun _ t => livev_stepTag t) rs
    (LiveV.intro rfl ⟨rfl, rfl⟩ (Or.inl rfl) ⟨Z.init rs, TokInvV.init rs⟩)
  rw [e]; exact h

end Spok.PW
