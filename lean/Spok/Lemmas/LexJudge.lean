import Spok.Lemmas.LexTiles
import Spok.Wire
/-! # The executable judge `Judge.c16` accepts what the model produces

The judge decodes the bytes of each gap *in isolation*; that is sound for white-space gaps because a rune
that did not decode to U+FFFD decodes the same whatever follows it (`Rune.Valid.decode1_eq`). -/
namespace Spok
open Spok.Judge (countNL slice allSpace tilesFrom)

theorem allSpace_flat {bs : List UInt8} {ws : List Rune} (hsub : ∀ r ∈ ws, r ∈ decodeAll bs)
    (hws : ∀ r ∈ ws, isSpace r = true) : allSpace (flat ws) = true := by
  have : decodeAll (flat ws) = ws := by
    rw [← List.append_nil (flat ws), decodeAll_flat_append, decodeAll, List.append_nil]
    intro r hr
    refine (valid_of_mem_decodeAll (hsub r hr) (.inl fun hc => ?_)).decode1_eq
    have := hws _ hr
    rw [isSpace, hc, isSpaceCp_runeError] at this
    cases this
  simp only [allSpace, this, List.all_eq_true]
  exact hws

theorem WsGap.allSpace {bytes : List UInt8} {a b : Nat} (h : WsGap bytes a b) : allSpace (slice bytes a b) = true := by
  obtain ⟨pre, ws, post, hd, h1, h2, hws⟩ := h
  have hb : bytes = flat (pre ++ ws ++ post) := by rw [← hd, flat_decodeAll]
  have : slice bytes a b = flat ws := by
    have hb' : b = bytesLen pre + bytesLen ws := by rw [← h2]; simp
    rw [hb, ← h1, hb', flat_length]; exact slice_flat pre ws post
  rw [this]
  exact allSpace_flat (bs := bytes) (fun r hr => by rw [hd]; simp [hr]) hws

theorem TilesFrom.ne_nil {bytes : List UInt8} {cur : Nat} {ts : List Tok} (h : TilesFrom bytes cur ts) : ts ≠ [] := by
  cases h <;> simp

theorem TilesFrom.judge {bytes : List UInt8} {cur : Nat} {ts : List Tok} (h : TilesFrom bytes cur ts) :
    tilesFrom bytes cur ts = true := by
  induction h with
  | error he => simp [tilesFrom, he]
  | @eof cur t h1 h2 h3 h4 h5 =>
    have := h4.le
    have ha := h4.allSpace
    rw [h3] at this ha h5
    simp only [List.take_length] at h5
    simp only [tilesFrom, h1, h2]
    simp [ha, this, h5, h3]
  | @tok cur t ts h1 h2 h3 h4 h5 h6 h7 ih =>
    obtain ⟨t', ts', rfl⟩ := List.exists_cons_of_ne_nil h7.ne_nil
    have := h3.le
    simp only [flat_length] at h4 h5 ih
    simp only [tilesFrom]
    simp [h1, h2, this, h3.allSpace, h4, h5, h6, ih]

/-- the model's stream needs no cutting: EOF / ERROR occur only in last position -/
theorem cutToks_of_doneOK {input : List Rune} {toks : List Tok} (h : DoneOK input toks) : Wire.cutToks toks = toks := by
  obtain ⟨ts, e, rfl, h⟩ := h
  have hty : ∀ t ∈ ts, t.ty ≠ .error ∧ t.ty ≠ .eof := by
    rcases h with ⟨_, _, _, _, ht⟩ | ⟨_, ht⟩
    · exact ht.types
    · exact ht.types
  have he : (e.ty == .eof || e.ty == .error) = true := by
    rcases h with ⟨he, _⟩ | ⟨rfl, _⟩
    · simp [he]
    · rfl
  clear h
  induction ts with
  | nil => simp [Wire.cutToks, he]
  | cons t ts ih =>
    have := hty t (by simp)
    simp only [List.cons_append, Wire.cutToks]
    simp [this.1, this.2, ih (fun x hx => hty x (by simp [hx]))]

end Spok
