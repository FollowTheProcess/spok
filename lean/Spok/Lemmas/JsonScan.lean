import Spok.Json.Cache
/-! # Segments: the scanner over what the writers write

`Seg s seg s'`: scanning `seg` from state `s` ends in `s'`, and after every *strict* prefix of `seg` the scanner is in
a state from which end-of-input is an error (`NA`, not accepting: the value is not complete and the parse stack is not
empty).  Segments compose (`Seg.append`); a comma-separated list between brackets is one (`seg_list`); a document is an
opening byte and a segment that ends `Done`, so it is valid and no strict prefix of it is (`Doc`, `doc_of_seg`). -/
namespace Spok.Json

def NA (s : Sc) : Prop := s.endTop = false ∧ s.stack ≠ []

abbrev St (stp : Step) (stk : List PS) : Sc := ⟨stp, stk, false, false⟩

theorem NA_St {stp : Step} {stk : List PS} (h : stk ≠ []) : NA (St stp stk) := ⟨rfl, h⟩

/-- "unexpected end of JSON input": `eof()` feeds a blank, and with something open a blank completes the value in no
    state -/
theorem NA.not_eofOk {s : Sc} (h : NA s) : s.eofOk = false := by
  obtain ⟨stp, stk, endTop, err⟩ := s
  obtain ⟨h1, h2⟩ := h
  cases h1
  cases stk with
  | nil => exact absurd rfl h2
  | cons p rest =>
    cases err
    · cases stp <;> rfl
    · rfl

def Seg (s : Sc) (seg : Bytes) (s' : Sc) : Prop :=
  scan s seg = s' ∧ ∀ q, q <+: seg → q ≠ seg → NA (scan s q)

theorem Seg.nil (s : Sc) : Seg s [] s := by
  refine ⟨rfl, ?_⟩
  intro q hq hne
  exact absurd (List.prefix_nil.mp hq) hne

theorem Seg.cons {s s' : Sc} {c : UInt8} {rest : Bytes} (hs : NA s) (h : Seg (feed s c) rest s') : Seg s (c :: rest) s' := by
  refine ⟨by rw [scan_cons]; exact h.1, ?_⟩
  intro q hq hne
  cases q with
  | nil => exact hs
  | cons d q' =>
    obtain ⟨rfl, hq'⟩ := List.cons_prefix_cons.mp hq
    exact h.2 q' hq' (by intro he; exact hne (by rw [he]))

theorem Seg.uncons {s s' : Sc} {c : UInt8} {rest : Bytes} (h : Seg s (c :: rest) s') : Seg (feed s c) rest s' := by
  refine ⟨by rw [← scan_cons]; exact h.1, ?_⟩
  intro q hq hne
  have := h.2 (c :: q) (List.cons_prefix_cons.mpr ⟨rfl, hq⟩) (by intro he; exact hne (List.cons.inj he).2)
  rwa [scan_cons] at this

theorem Seg.append {s s1 s2 : Sc} {a b : Bytes} (ha : Seg s a s1) (hb : Seg s1 b s2) : Seg s (a ++ b) s2 := by
  induction a generalizing s with
  | nil => cases ha.1; exact hb
  | cons c a ih => exact Seg.cons (ha.2 [] List.nil_prefix (List.cons_ne_nil c a).symm) (ih ha.uncons)

theorem Seg.step {s s1 s' : Sc} {c : UInt8} {rest : Bytes} (hs : NA s) (hf : feed s c = s1) (h : Seg s1 rest s') :
    Seg s (c :: rest) s' := Seg.cons hs (hf ▸ h)

/-- with something open, a segment is scanned byte by byte: over given bytes `simp` can run the scanner with this -/
theorem seg_St_cons {stk : List PS} (hs : stk ≠ []) (stp : Step) (c : UInt8) (rest : Bytes) (s' : Sc) :
    Seg (St stp stk) (c :: rest) s' ↔ Seg (stepFn (St stp stk) c.toNat) rest s' :=
  ⟨Seg.uncons, Seg.cons (NA_St hs)⟩

theorem seg_joinComma {s1 e : Sc} (he : NA e) (hcomma : feed e 44 = s1) :
    ∀ (x : Bytes) (l : List Bytes) (s : Sc), Seg s x e → (∀ it ∈ l, Seg s1 it e) → Seg s (joinComma (x :: l)) e
  | _, [], _, hx, _ => hx
  | _, y :: l, _, hx, h =>
    hx.append (Seg.step he hcomma (seg_joinComma he hcomma y l s1 (h y (by simp)) fun it hit => h it (by simp [hit])))

/-- the shape of every object and array that is written from a list: `s0` is the state after the opening bracket, `s1`
    the one after a comma, `e` the one after an item, `cl` the closing byte -/
theorem seg_list {s0 s1 e fin : Sc} {cl : UInt8} (h0 : NA s0) (he : NA e) (hcomma : feed e 44 = s1)
    (hcl0 : feed s0 cl = fin) (hcl : feed e cl = fin) :
    ∀ (items : List Bytes), (∀ it ∈ items, Seg s0 it e ∧ Seg s1 it e) → Seg s0 (joinComma items ++ [cl]) fin
  | [], _ => Seg.step h0 hcl0 (Seg.nil _)
  | x :: l, h =>
    (seg_joinComma he hcomma x l s0 (h x (by simp)).1 fun it hit => (h it (by simp [hit])).2).append
      (Seg.step he hcl (Seg.nil _))

def Done : Sc := ⟨.endTop, [], true, false⟩

/-- the state after a complete value; it makes the closing bracket of the document and that of a nested value one case -/
def after : List PS → Sc
  | [] => Done
  | stk => St .endValue stk

theorem pop_St (stp : Step) (p : PS) (stk : List PS) : (St stp (p :: stk)).pop = after stk := by
  cases stk <;> rfl

theorem after_ne {stk : List PS} (h : stk ≠ []) : after stk = St .endValue stk := by
  cases stk with
  | nil => exact absurd rfl h
  | cons _ _ => rfl

def Doc (bs : Bytes) : Prop := scan Sc.init bs = Done ∧ ∀ q, q <+: bs → q ≠ bs → valid q = false

theorem Doc.valid {bs : Bytes} (h : Doc bs) : valid bs = true := by unfold Json.valid; rw [h.1]; rfl

theorem doc_of_seg {c : UInt8} {rest : Bytes} (h : Seg (feed Sc.init c) rest Done) : Doc (c :: rest) := by
  refine ⟨by rw [scan_cons, h.1], ?_⟩
  intro q hq hne
  cases q with
  | nil => rfl
  | cons d q' =>
    obtain ⟨rfl, hq'⟩ := List.cons_prefix_cons.mp hq
    exact (h.2 q' hq' (by intro he; exact hne (by rw [he]))).not_eofOk

end Spok.Json
