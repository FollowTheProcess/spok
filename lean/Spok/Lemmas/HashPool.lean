import Spok.HashPool
import Spok.Lemmas.Hash
/-! # The inductive invariant of the worker pool (`Spok.HashPool`) and what follows from it -/
namespace Spok.HashPool

variable {ρ : Type}

/-- what holds in every reachable state; `E` = the results that have to arrive -/
structure Inv (E : List ρ) (s : St ρ) : Prop where
  /-- `jobs` is closed only after the last send -/
  closed_todo : s.jobsClosed = true → s.todo = []
  /-- `results` is closed only after every `wg.Done` -/
  rc : s.resultsClosed = true → ∀ w ∈ s.workers, w = .done
  /-- main leaves its loop only on a closed `results` -/
  md : s.mainDone = true → s.resultsClosed = true
  /-- somebody is there to take a job: this is what `min(NumCPU, len(files))` with `NumCPU ≥ 1` has to guarantee -/
  live : s.todo ≠ [] → s.workers ≠ []
  /-- no worker returns before `jobs` is closed -/
  notdone : s.jobsClosed = false → ∀ w ∈ s.workers, w ≠ .done
  /-- conservation: received ⊎ in the hands of blocked workers ⊎ still to be sent = everything, as multisets -/
  cons : (s.acc ++ (s.workers.filterMap held ++ s.todo.filterMap id)).Perm E

@[simp] theorem held_idle : held (W.idle : W ρ) = none := rfl
@[simp] theorem held_done : held (W.done : W ρ) = none := rfl
@[simp] theorem held_holding (r : ρ) : held (W.holding r) = some r := rfl
@[simp] theorem wgt_idle : wgt (W.idle : W ρ) = 1 := rfl
@[simp] theorem wgt_done : wgt (W.done : W ρ) = 0 := rfl
@[simp] theorem wgt_holding (r : ρ) : wgt (W.holding r) = 2 := rfl
@[simp] theorem afterJob_none : afterJob (none : Option ρ) = .idle := rfl
@[simp] theorem afterJob_some (r : ρ) : afterJob (some r) = .holding r := rfl

theorem inv_init {ncpu : Nat} (hcpu : 0 < ncpu) (jobs : List (Option ρ)) : Inv (expected jobs) (init ncpu jobs) where
  closed_todo := by simp [init]
  rc := by simp [init]
  md := by simp [init]
  live := by
    intro h
    have hl : 0 < jobs.length := List.length_pos_iff.mpr h
    have : 0 < nWorkers ncpu jobs.length := by unfold nWorkers; omega
    simp only [init, ne_eq, List.replicate_eq_nil_iff]
    omega
  notdone := by simp [init, List.mem_replicate]
  cons := by simp [init, List.filterMap_replicate, expected]

theorem inv_step {E : List ρ} {s s' : St ρ} (h : Inv E s) (st : Step s s') : Inv E s' := by
  cases st with
  | send j rest l₁ l₂ htd hw =>
    refine ⟨?_, ?_, h.md, ?_, ?_, ?_⟩
    · intro hjc; have := h.closed_todo hjc; simp [htd] at this
    · intro hrc
      have := h.rc hrc .idle (by simp [hw])
      cases this
    · intro _; simp
    · intro hjc w hmem
      have hnd := h.notdone hjc
      simp only [List.mem_append, List.mem_cons] at hmem
      rcases hmem with hm | rfl | hm
      · exact hnd w (by simp [hw, hm])
      · cases j <;> exact fun hc => by cases hc
      · exact hnd w (by simp [hw, hm])
    · have hc := h.cons
      simp only [hw, htd] at hc
      refine List.Perm.trans ?_ hc
      cases j with
      | none => simp
      | some r =>
        simp only [afterJob_some, held_holding, held_idle, List.filterMap_append, List.filterMap_cons, id, List.append_assoc]
        apply (List.perm_append_left_iff s.acc).mpr
        apply (List.perm_append_left_iff _).mpr
        exact List.perm_middle.symm
  | closeJobs htd hjc =>
    refine ⟨fun _ => htd, h.rc, h.md, h.live, ?_, h.cons⟩
    intro hc; simp at hc
  | exit l₁ l₂ hjc hw =>
    refine ⟨h.closed_todo, ?_, h.md, ?_, ?_, ?_⟩
    · intro hrc
      have := h.rc hrc .idle (by simp [hw])
      cases this
    · intro _; simp
    · intro hc; simp [hjc] at hc
    · have hc := h.cons
      simp only [hw] at hc
      refine List.Perm.trans ?_ hc
      simp [List.filterMap_cons]
  | recv r l₁ l₂ hw hmd =>
    refine ⟨h.closed_todo, ?_, ?_, ?_, ?_, ?_⟩
    · intro hrc
      have := h.rc hrc (.holding r) (by simp [hw])
      cases this
    · intro hc; simp [hmd] at hc
    · intro _; simp
    · intro hjc w hmem
      have hnd := h.notdone hjc
      simp only [List.mem_append, List.mem_cons] at hmem
      rcases hmem with hm | rfl | hm
      · exact hnd w (by simp [hw, hm])
      · exact fun hc => by cases hc
      · exact hnd w (by simp [hw, hm])
    · have hc := h.cons
      simp only [hw] at hc
      refine List.Perm.trans ?_ hc
      simp only [held_holding, held_idle, List.filterMap_append, List.filterMap_cons, List.append_assoc, List.cons_append,
        List.nil_append]
      apply (List.perm_append_left_iff s.acc).mpr
      exact List.perm_middle.symm
  | closeResults hall hrc =>
    exact ⟨h.closed_todo, fun _ => hall, fun _ => rfl, h.live, h.notdone, h.cons⟩
  | mainExit hrc hmd =>
    exact ⟨h.closed_todo, h.rc, fun _ => hrc, h.live, h.notdone, h.cons⟩

theorem inv_of_reachable {ncpu : Nat} (hcpu : 0 < ncpu) {jobs : List (Option ρ)} {s : St ρ}
    (hr : Reachable ncpu jobs s) : Inv (expected jobs) s := by
  induction hr with
  | init => exact inv_init hcpu jobs
  | step _ st ih => exact inv_step ih st

/-- once every worker has returned nothing is left to send: a worker returns only after `jobs` was closed, `jobs` is
    closed only after the last send, and a non-empty `todo` has a worker -/
theorem Inv.todo_nil {E : List ρ} {s : St ρ} (h : Inv E s) (hall : ∀ w ∈ s.workers, w = .done) : s.todo = [] := by
  cases hws : s.workers with
  | nil =>
    cases htd : s.todo with
    | nil => rfl
    | cons j rest => exact absurd hws (h.live (by simp [htd]))
  | cons w ws =>
    cases hj : s.jobsClosed with
    | true => exact h.closed_todo hj
    | false => exact absurd (hall w (by simp [hws])) (h.notdone hj w (by simp [hws]))

/-- a worker that is neither blocked on `results` nor returned is waiting on `jobs` -/
theorem exists_idle_of_not_all_done {ws : List (W ρ)} (hno : ¬ ∃ r l₁ l₂, ws = l₁ ++ W.holding r :: l₂)
    (hnd : ¬ ∀ w ∈ ws, w = W.done) : ∃ l₁ l₂, ws = l₁ ++ W.idle :: l₂ := by
  apply Classical.byContradiction
  intro hidle
  apply hnd
  intro w hw
  obtain ⟨l₁, l₂, hl⟩ := List.append_of_mem hw
  cases w with
  | idle => exact absurd ⟨l₁, l₂, hl⟩ hidle
  | holding r => exact absurd ⟨r, l₁, l₂, hl⟩ hno
  | done => rfl

theorem progress_of_inv {E : List ρ} {s : St ρ} (h : Inv E s) (hf : ¬ allReturned s) : ∃ s', Step s s' := by
  by_cases hmd : s.mainDone = true
  · -- main is gone: results closed, all workers done; what is missing is the feeder's close(jobs)
    have hrc := h.md hmd
    have hall := h.rc hrc
    cases hjc : s.jobsClosed with
    | false => exact ⟨_, .closeJobs s (h.todo_nil hall) hjc⟩
    | true => exact absurd ⟨hmd, hjc, hrc, hall⟩ hf
  have hmd' : s.mainDone = false := by simpa using hmd
  by_cases hrc : s.resultsClosed = true
  · exact ⟨_, .mainExit s hrc hmd'⟩
  have hrc' : s.resultsClosed = false := by simpa using hrc
  by_cases hh : ∃ r l₁ l₂, s.workers = l₁ ++ W.holding r :: l₂
  · obtain ⟨r, l₁, l₂, hw⟩ := hh
    exact ⟨_, .recv s r l₁ l₂ hw hmd'⟩
  cases hjc : s.jobsClosed with
  | true =>
    by_cases hall : ∀ w ∈ s.workers, w = .done
    · exact ⟨_, .closeResults s hall hrc'⟩
    · obtain ⟨l₁, l₂, hw⟩ := exists_idle_of_not_all_done hh hall
      exact ⟨_, .exit s l₁ l₂ hjc hw⟩
  | false =>
    cases htd : s.todo with
    | nil => exact ⟨_, .closeJobs s htd hjc⟩
    | cons j rest =>
      obtain ⟨l₁, l₂, hw⟩ := exists_idle_of_not_all_done hh (fun hall => by simp [h.todo_nil hall] at htd)
      exact ⟨_, .send s j rest l₁ l₂ htd hw⟩

theorem result_of_inv {E : List ρ} {s : St ρ} (h : Inv E s) (hf : final s) :
    allWorkersDone s ∧ s.resultsClosed = true ∧ s.todo = [] ∧ s.acc.Perm E := by
  have hrc := h.md hf
  have hall := h.rc hrc
  have htd := h.todo_nil hall
  have hheld : s.workers.filterMap held = [] := by
    apply List.filterMap_eq_nil_iff.mpr
    intro w hw
    rw [hall w hw]; rfl
  have hc := h.cons
  rw [hheld, htd] at hc
  exact ⟨hall, hrc, htd, by simpa using hc⟩

theorem measure_decreases {s s' : St ρ} (st : Step s s') : measure s' < measure s := by
  cases st with
  | send j rest l₁ l₂ htd hw =>
    cases j <;> simp [measure, htd, hw, List.sum_append] <;> omega
  | closeJobs htd hjc => simp [measure, hjc]
  | exit l₁ l₂ hjc hw => simp [measure, hw, List.sum_append]
  | recv r l₁ l₂ hw hmd => simp [measure, hw, List.sum_append]
  | closeResults hall hrc => simp [measure, hrc]
  | mainExit hrc hmd => simp [measure, hmd]

theorem steps_bound {n : Nat} {s s' : St ρ} (h : Steps n s s') : n + measure s' ≤ measure s := by
  induction h with
  | refl => simp
  | cons st _ ih => have := measure_decreases st; omega

theorem sum_map_wgt_replicate_idle (n : Nat) : ((List.replicate n (W.idle : W ρ)).map wgt).sum = n := by
  simp [List.map_replicate, List.sum_replicate_nat]

theorem measure_init (ncpu : Nat) (jobs : List (Option ρ)) :
    measure (init ncpu jobs) = 4 * jobs.length + nWorkers ncpu jobs.length + 3 := by
  simp [measure, init]

theorem finish_of_final (sha : Hash.Bytes → Hash.Bytes) {ncpu : Nat} (hcpu : 0 < ncpu) (files : List (Hash.Path × Hash.Entry))
    {s : St Hash.Res} (hr : Reachable ncpu (files.map (Hash.jobResult sha)) s) (hf : final s) :
    Hash.finish sha s.acc = Hash.digest sha files := by
  have h := (result_of_inv (inv_of_reachable hcpu hr) hf).2.2.2
  rw [show expected (files.map (Hash.jobResult sha)) = Hash.results sha files by
    simp [expected, Hash.results, List.filterMap_map]] at h
  exact Hash.finish_perm sha h

end Spok.HashPool
