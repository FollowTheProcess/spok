import Spok.Clean
/-! # Lemmas about the lexical path algebra (`split`, `glue`, `clean`, `join`, `abs`)

Main results: an absolute path cleans to `/` followed by its normal components (`segs_clean_abs`),
`clean` is idempotent on absolute paths, and everything `abs cwd ·` returns (for an absolute `cwd`) is
absolute and already clean (`cleanAbs_abs`). -/
namespace Spok.Clean

theorem split_slash (cs : Str) : split ('/' :: cs) = [] :: split cs := by
  simp [split]

theorem split_cons {c : Char} (hc : c ≠ '/') (cs : Str) : split (c :: cs) = consHead c (split cs) := by
  simp [split, hc]

theorem split_ne_nil (s : Str) : split s ≠ [] := by
  cases s with
  | nil => simp [split]
  | cons c cs =>
    by_cases hc : c = '/'
    · subst hc; simp [split_slash]
    · rw [split_cons hc]
      cases h : split cs <;> simp [consHead]

theorem split_noslash {s : Str} (h : '/' ∉ s) : split s = [s] := by
  induction s with
  | nil => simp [split]
  | cons c cs ih =>
    have hc : c ≠ '/' := by intro e; apply h; simp [e]
    have hcs : '/' ∉ cs := by intro e; apply h; simp [e]
    rw [split_cons hc, ih hcs]; rfl

theorem split_append (a b : Str) : split (a ++ '/' :: b) = split a ++ split b := by
  induction a with
  | nil => simp [split]
  | cons c cs ih =>
    by_cases hc : c = '/'
    · subst hc
      simp [split_slash, ih]
    · rw [List.cons_append, split_cons hc, split_cons hc, ih]
      cases hs : split cs with
      | nil => exact absurd hs (split_ne_nil cs)
      | cons h t => simp [consHead]

theorem mem_split_noslash {s x : Str} (h : x ∈ split s) : '/' ∉ x := by
  induction s generalizing x with
  | nil => cases List.mem_singleton.1 h; exact List.not_mem_nil
  | cons c cs ih =>
    by_cases hc : c = '/'
    · subst hc
      rcases List.mem_cons.1 h with rfl | h
      · exact List.not_mem_nil
      · exact ih h
    · rw [split_cons hc] at h
      cases hs : split cs with
      | nil => exact absurd hs (split_ne_nil cs)
      | cons hd tl =>
        rw [hs, consHead] at h
        rcases List.mem_cons.1 h with rfl | h
        · intro hm
          rcases List.mem_cons.1 hm with e | hm
          · exact hc e.symm
          · exact ih (hs ▸ List.mem_cons_self) hm
        · exact ih (hs ▸ List.mem_cons_of_mem _ h)

theorem split_glue {l : List Str} (hne : l ≠ []) (hs : ∀ x ∈ l, '/' ∉ x) : split (glue l) = l := by
  induction l with
  | nil => exact absurd rfl hne
  | cons x t ih =>
    cases t with
    | nil => simpa [glue] using split_noslash (hs x (by simp))
    | cons y t' =>
      have : glue (x :: y :: t') = x ++ '/' :: glue (y :: t') := by simp [glue]
      rw [this, split_append, split_noslash (hs x (by simp)), ih (by simp) (fun z hz => hs z (by simp [hz]))]
      simp

/-! ## normal component lists -/

def Proper (x : Str) : Prop := x ≠ [] ∧ x ≠ DOT ∧ x ≠ DOTDOT ∧ '/' ∉ x

theorem step_proper {r : Bool} {st : List Str} {x : Str} (hx : Proper x) : step r st x = x :: st := by
  obtain ⟨h1, h2, h3, _⟩ := hx
  simp [step, h1, h2, h3]

theorem foldl_step_proper {r : Bool} {l : List Str} (hl : ∀ x ∈ l, Proper x) (st : List Str) :
    l.foldl (step r) st = l.reverse ++ st := by
  induction l generalizing st with
  | nil => simp
  | cons x t ih =>
    simp only [List.foldl_cons, step_proper (hl x (by simp))]
    rw [ih (fun z hz => hl z (by simp [hz]))]
    simp

theorem cleanSegs_proper {r : Bool} {l : List Str} (hl : ∀ x ∈ l, Proper x) : cleanSegs r l = l := by
  simp [cleanSegs, foldl_step_proper hl]

theorem cleanSegs_concat_proper {r : Bool} {x : Str} (hx : Proper x) (l : List Str) :
    cleanSegs r (l ++ [x]) = cleanSegs r l ++ [x] := by
  simp [cleanSegs, List.foldl_append, step_proper hx]

theorem step_rooted_inv {st : List Str} {x : Str} (hst : ∀ y ∈ st, Proper y) (hx : '/' ∉ x) :
    ∀ y ∈ step true st x, Proper y := by
  by_cases h1 : x = []
  · subst h1; exact hst
  by_cases h2 : x = DOT
  · subst h2; exact hst
  by_cases h3 : x = DOTDOT
  · -- `..` pops: the top of the stack is proper, so never `..` itself
    subst h3
    cases st with
    | nil => exact nofun
    | cons top rest =>
      have : step true (top :: rest) DOTDOT = rest := by simp [step, (hst top List.mem_cons_self).2.2.1]
      rw [this]
      exact fun y hy => hst y (List.mem_cons_of_mem _ hy)
  · rw [step_proper ⟨h1, h2, h3, hx⟩]
    exact List.forall_mem_cons.2 ⟨⟨h1, h2, h3, hx⟩, hst⟩

theorem foldl_step_rooted_inv {l : List Str} (hl : ∀ x ∈ l, '/' ∉ x) {st : List Str} (hst : ∀ y ∈ st, Proper y) :
    ∀ y ∈ l.foldl (step true) st, Proper y := by
  induction l generalizing st with
  | nil => simpa using hst
  | cons x t ih =>
    exact ih (fun z hz => hl z (by simp [hz])) (step_rooted_inv hst (hl x (by simp)))

theorem cleanSegs_rooted_proper (s : Str) : ∀ y ∈ cleanSegs true (split s), Proper y := by
  intro y hy
  simp only [cleanSegs, List.mem_reverse] at hy
  exact foldl_step_rooted_inv (fun x hx => mem_split_noslash hx) (by simp) y hy

/-! ## clean on absolute paths -/

theorem isAbs_cons (s : Str) : isAbs ('/' :: s) = true := rfl

theorem isAbs_iff {s : Str} : isAbs s = true ↔ ∃ t, s = '/' :: t := by
  unfold isAbs
  split
  · exact ⟨fun _ => ⟨_, rfl⟩, fun _ => rfl⟩
  · exact ⟨nofun, fun ⟨t, ht⟩ => absurd ht (‹∀ t, s = '/' :: t → False› t)⟩

theorem clean_abs {s : Str} (h : isAbs s = true) : clean s = '/' :: glue (cleanSegs true (split s)) := by
  simp [clean, h]

theorem isAbs_clean {s : Str} (h : isAbs s = true) : isAbs (clean s) = true := by
  rw [clean_abs h]; rfl

theorem filter_nonempty_proper {l : List Str} (hl : ∀ x ∈ l, Proper x) :
    l.filter (fun x => !x.isEmpty) = l := by
  apply List.filter_eq_self.2
  intro x hx
  have := (hl x hx).1
  cases x <;> simp_all

theorem split_slash_glue {l : List Str} (hl : ∀ x ∈ l, Proper x) :
    split ('/' :: glue l) = if l = [] then [[], []] else [] :: l := by
  rw [split_slash]
  by_cases hne : l = []
  · subst hne; simp [glue, split]
  · simp [hne, split_glue hne (fun x hx => (hl x hx).2.2.2)]

theorem segs_slash_glue {l : List Str} (hl : ∀ x ∈ l, Proper x) : segs ('/' :: glue l) = l := by
  unfold segs
  rw [split_slash_glue hl]
  by_cases hne : l = []
  · subst hne; simp
  · simp [hne, filter_nonempty_proper hl]

theorem cleanSegs_cons_nil (r : Bool) (l : List Str) : cleanSegs r ([] :: l) = cleanSegs r l := by
  simp [cleanSegs, step]

theorem cleanSegs_slash_glue {l : List Str} (hl : ∀ x ∈ l, Proper x) :
    cleanSegs true (split ('/' :: glue l)) = l := by
  rw [split_slash_glue hl]
  by_cases hne : l = []
  · subst hne; simp [cleanSegs, step]
  · simp [hne, cleanSegs_cons_nil, cleanSegs_proper hl]

theorem segs_clean_abs {s : Str} (h : isAbs s = true) : segs (clean s) = cleanSegs true (split s) := by
  rw [clean_abs h, segs_slash_glue (cleanSegs_rooted_proper s)]

theorem clean_idem_abs {s : Str} (h : isAbs s = true) : clean (clean s) = clean s := by
  rw [clean_abs (isAbs_clean h)]
  rw [clean_abs h, cleanSegs_slash_glue (cleanSegs_rooted_proper s)]

/-- absolute and already clean: what every path handed to `os.RemoveAll` looks like -/
def CleanAbs (t : Str) : Prop := isAbs t = true ∧ clean t = t

theorem cleanAbs_clean {s : Str} (h : isAbs s = true) : CleanAbs (clean s) :=
  ⟨isAbs_clean h, clean_idem_abs h⟩

/-! ## join / abs -/

theorem join_abs_head {d x : Str} (hd : isAbs d = true) : join [d, x] = clean (d ++ '/' :: x) := by
  obtain ⟨t, rfl⟩ := isAbs_iff.1 hd
  simp [join, glue]

theorem cleanAbs_join {d x : Str} (hd : isAbs d = true) : CleanAbs (join [d, x]) := by
  rw [join_abs_head hd]
  apply cleanAbs_clean
  obtain ⟨t, rfl⟩ := isAbs_iff.1 hd
  rfl

/-- `filepath.Abs` returns an absolute, clean path (given an absolute working directory) -/
theorem cleanAbs_abs {cwd : Str} (hc : isAbs cwd = true) (s : Str) : CleanAbs (abs cwd s) := by
  unfold abs
  split
  · rename_i h; exact cleanAbs_clean h
  · exact cleanAbs_join hc

theorem pathOf_join_name {d n : Str} (hd : CleanAbs d) (hn : Proper n) :
    pathOf (join [d, n]) = pathOf d ++ [n] := by
  have habs : isAbs (d ++ '/' :: n) = true := by
    obtain ⟨t, rfl⟩ := isAbs_iff.1 hd.1; rfl
  unfold pathOf
  rw [join_abs_head hd.1, segs_clean_abs habs, split_append, split_noslash hn.2.2.2, cleanSegs_concat_proper hn,
    ← segs_clean_abs hd.1, hd.2]

end Spok.Clean
