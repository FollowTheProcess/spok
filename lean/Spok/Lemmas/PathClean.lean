import Spok.Lemmas.PathBasic
/-! # Lemmas about `--clean`: the target list is the designated set, removing the targets one after the
other is one filter, and the refusal test is exactly "the spokfile, its directory or an ancestor". -/
namespace Spok.Clean

theorem mapE_cons_ok {α β ε} {f : α → Except ε β} {a : α} {t : List α} {r : List β} :
    mapE f (a :: t) = .ok r ↔ ∃ b bs, f a = .ok b ∧ mapE f t = .ok bs ∧ r = b :: bs := by
  rw [mapE]
  cases f a <;> cases mapE f t <;> simp [eq_comm]

/-- `mapE f` succeeds exactly when `f` does on every element; `P` says when, `g` with what -/
theorem mapE_ok_iff {α β ε} {f : α → Except ε β} {P : α → Prop} {g : α → β} {l : List α} {r : List β}
    (hf : ∀ x ∈ l, ∀ y, f x = .ok y ↔ P x ∧ y = g x) : mapE f l = .ok r ↔ (∀ x ∈ l, P x) ∧ r = l.map g := by
  induction l generalizing r with
  | nil => simp [mapE, eq_comm]
  | cons a t ih =>
    simp only [mapE_cons_ok, hf a List.mem_cons_self, ih fun x hx => hf x (List.mem_cons_of_mem _ hx),
      List.forall_mem_cons, List.map_cons]
    constructor
    · rintro ⟨_, _, ⟨h1, rfl⟩, ⟨h2, rfl⟩, rfl⟩; exact ⟨⟨h1, h2⟩, rfl⟩
    · rintro ⟨⟨h1, h2⟩, rfl⟩; exact ⟨_, _, ⟨h1, rfl⟩, ⟨h2, rfl⟩, rfl⟩

/-! ## targets = designated -/

/-- the body of the `flatMap` in `designatedList`: the designated paths of one task, in the order the code collects them -/
def taskDesignated (sf : SpokFile) (cwd : Str) (t : Task) : List Str :=
  t.globOutputs.flatMap (globTargets sf cwd) ++ t.fileOutputs.map (fileTarget sf cwd) ++
  t.namedOutputs.filterMap (fun n => (lookupVar sf.vars n).map (absP sf cwd))

theorem statted_ok_iff {fs : FS} {p y : Str} : statted fs p = .ok y ↔ y = p := by
  simp [statted, statErr, eq_comm]

theorem namedTarget_ok_iff {sf : SpokFile} {cwd : Str} {fs : FS} {n y : Str} :
    namedTarget sf cwd fs n = .ok y ↔
      (lookupVar sf.vars n).isSome ∧ y = absP sf cwd ((lookupVar sf.vars n).getD []) := by
  unfold namedTarget
  cases lookupVar sf.vars n <;> simp [statted_ok_iff]

theorem map_getD_eq_filterMap {sf : SpokFile} {cwd : Str} {ns : List Str} (h : ∀ n ∈ ns, (lookupVar sf.vars n).isSome) :
    ns.map (fun n => absP sf cwd ((lookupVar sf.vars n).getD [])) =
      ns.filterMap (fun n => (lookupVar sf.vars n).map (absP sf cwd)) := by
  induction ns with
  | nil => rfl
  | cons a rest ih =>
    obtain ⟨v, hv⟩ := Option.isSome_iff_exists.1 (h a List.mem_cons_self)
    simp [hv, ih fun n hn => h n (List.mem_cons_of_mem _ hn)]

theorem taskTargets_ok_iff {sf : SpokFile} {cwd : Str} {fs : FS} {t : Task} {r : List Str} :
    taskTargets sf cwd fs t = .ok r ↔
      (∀ n ∈ t.namedOutputs, (lookupVar sf.vars n).isSome) ∧ r = taskDesignated sf cwd t := by
  have hinv : taskTargets sf cwd fs t = .ok r ↔ ∃ fl nm,
      mapE (fun o => statted fs (fileTarget sf cwd o)) t.fileOutputs = .ok fl ∧
      mapE (namedTarget sf cwd fs) t.namedOutputs = .ok nm ∧
      r = t.globOutputs.flatMap (globTargets sf cwd) ++ fl ++ nm := by
    unfold taskTargets
    cases mapE (fun o => statted fs (fileTarget sf cwd o)) t.fileOutputs <;>
      cases mapE (namedTarget sf cwd fs) t.namedOutputs <;> simp [eq_comm]
  rw [hinv]
  simp only [mapE_ok_iff fun _ _ _ => statted_ok_iff.trans ⟨fun h => ⟨trivial, h⟩, And.right⟩,
    mapE_ok_iff fun _ _ _ => namedTarget_ok_iff]
  constructor
  · rintro ⟨_, _, ⟨_, rfl⟩, ⟨hd, rfl⟩, rfl⟩; exact ⟨hd, by rw [taskDesignated, map_getD_eq_filterMap hd]⟩
  · rintro ⟨hd, rfl⟩
    exact ⟨_, _, ⟨fun _ _ => trivial, rfl⟩, ⟨hd, rfl⟩, by rw [taskDesignated, map_getD_eq_filterMap hd]⟩

theorem targets_ok_iff {sf : SpokFile} {cwd : Str} {fs : FS} {ts : List Str} :
    targets sf cwd fs = .ok ts ↔
      (∀ t ∈ sf.tasks, ∀ n ∈ t.namedOutputs, (lookupVar sf.vars n).isSome) ∧ ts = designatedList sf cwd := by
  have hinv : targets sf cwd fs = .ok ts ↔ ∃ per,
      mapE (taskTargets sf cwd fs) sf.tasks = .ok per ∧ ts = per.flatten ++ [sf.cacheDir] := by
    unfold targets
    cases mapE (taskTargets sf cwd fs) sf.tasks <;> simp [eq_comm]
  rw [hinv]
  simp only [mapE_ok_iff fun _ _ _ => taskTargets_ok_iff]
  constructor
  · rintro ⟨_, ⟨hd, rfl⟩, rfl⟩; exact ⟨hd, by rw [← List.flatMap_def]; rfl⟩
  · rintro ⟨hd, rfl⟩; exact ⟨_, ⟨hd, rfl⟩, by rw [← List.flatMap_def]; rfl⟩

theorem targets_ok_defined {sf : SpokFile} {cwd : Str} {fs : FS} {ts : List Str}
    (h : targets sf cwd fs = .ok ts) :
    ∀ t ∈ sf.tasks, ∀ n ∈ t.namedOutputs, ∃ v, lookupVar sf.vars n = some v :=
  fun t ht n hn => Option.isSome_iff_exists.1 ((targets_ok_iff.1 h).1 t ht n hn)

theorem mem_designatedList {sf : SpokFile} {cwd d : Str} :
    d ∈ designatedList sf cwd ↔ Designated sf cwd d := by
  constructor
  · intro h
    simp only [designatedList, List.mem_append, List.mem_flatMap, List.mem_map, List.mem_filterMap,
      List.mem_singleton, globTargets, fileTarget] at h
    rcases h with ⟨t, ht, (⟨g, hg, m, hm, rfl⟩ | ⟨o, ho, rfl⟩) | ⟨n, hn, hv⟩⟩ | rfl
    · exact .glob ht hg hm
    · exact .file ht ho
    · obtain ⟨v, hl, rfl⟩ := Option.map_eq_some_iff.1 hv
      exact .named ht hn hl
    · exact .cache
  · intro h
    simp only [designatedList, List.mem_append, List.mem_flatMap, List.mem_map, List.mem_filterMap,
      List.mem_singleton, globTargets, fileTarget]
    cases h with
    | file ht ho => exact .inl ⟨_, ht, .inl (.inr ⟨_, ho, rfl⟩)⟩
    | named ht hn hv => exact .inl ⟨_, ht, .inr ⟨_, hn, by simp [hv]⟩⟩
    | glob ht hg hm => exact .inl ⟨_, ht, .inl (.inl ⟨_, hg, _, hm, rfl⟩)⟩
    | cache => exact .inr rfl

/-! ## removing one after the other = one filter -/

theorem foldl_removeAll (ts : List Str) (fs : FS) :
    ts.foldl (fun fs t => removeAll fs (pathOf t)) fs = expectedAfter fs ts := by
  induction ts generalizing fs with
  | nil => exact (List.filter_eq_self.2 fun _ _ => rfl).symm
  | cons t rest ih =>
    rw [List.foldl_cons, ih]
    simp only [expectedAfter, removeAll, List.filter_filter]
    congr 1
    funext e
    simp only [List.any_cons, Bool.not_or]
    exact Bool.and_comm _ _

theorem mem_expectedAfter {fs : FS} {ds : List Str} {e : Path × Kind} :
    e ∈ expectedAfter fs ds ↔ e ∈ fs ∧ ¬ ∃ d ∈ ds, pathOf d <+: e.1 := by
  simp [expectedAfter, within, List.mem_filter]

/-! ## the refusal test -/

theorem within_iff {d p : Path} : within d p = true ↔ d <+: p := by
  simp [within]

theorem containsSpokfile_cleanAbs {t target : Str} (ht : CleanAbs t) (hp : CleanAbs target) :
    containsSpokfile t target = within (pathOf t) (pathOf target) := by
  unfold containsSpokfile
  simp only [ht.2, hp.2, ht.1, hp.1, Bool.true_and]
  by_cases h : t = target
  · subst h; simp [within]
  · simp [h]

/-- what `physical` returns is again a clean absolute path (`EvalSymlinks` + `Join`) -/
def PhysOk (sf : SpokFile) : Prop := ∀ s, CleanAbs s → CleanAbs (sf.phys s)

theorem cleanAbs_designated {sf : SpokFile} {cwd d : Str} (hd : isAbs sf.dir = true) (hc : isAbs cwd = true)
    (hp : PhysOk sf) (h : Designated sf cwd d) : CleanAbs d := by
  cases h with
  | cache => exact cleanAbs_join hd
  | _ => exact hp _ (cleanAbs_abs hc _)

/-- on designated paths the code's test `containsSpokfile` is the specification's `protectedPath` -/
theorem containsSpokfile_designated {sf : SpokFile} {cwd d : Str} (hd : isAbs sf.dir = true) (hc : isAbs cwd = true)
    (hp : PhysOk sf) (h : d ∈ designatedList sf cwd) : containsSpokfile d sf.path = protectedPath sf (pathOf d) := by
  rw [containsSpokfile_cleanAbs (cleanAbs_designated hd hc hp (mem_designatedList.1 h)) (target := sf.path) (cleanAbs_join hd)]
  rfl

theorem isPrefix_trans' {a b c : Path} (h1 : a <+: b) (h2 : b <+: c) : a <+: c := List.IsPrefix.trans h1 h2

theorem protectedPath_of_prefix {sf : SpokFile} {p q : Path} (h : p <+: q) (hq : protectedPath sf q = true) :
    protectedPath sf p = true :=
  within_iff.2 (isPrefix_trans' h (within_iff.1 hq))

/-! ## runClean, case by case -/

/-- everything `runClean` can do: fail on an undefined named output, refuse because a target is the spokfile or above
    it (both before anything is touched), or remove exactly the designated subtrees -/
theorem runClean_cases (sf : SpokFile) (cwd : Str) (fs : FS) :
    ((∃ t ∈ sf.tasks, ∃ n ∈ t.namedOutputs, lookupVar sf.vars n = none) ∧ ∃ e, runClean sf cwd fs = ⟨some e, fs, []⟩) ∨
    ((∃ d ∈ designatedList sf cwd, containsSpokfile d sf.path = true) ∧
      ∃ t, runClean sf cwd fs = ⟨some (.refused t), fs, []⟩) ∨
    ((∀ t ∈ sf.tasks, ∀ n ∈ t.namedOutputs, (lookupVar sf.vars n).isSome) ∧
      (∀ d ∈ designatedList sf cwd, containsSpokfile d sf.path = false) ∧
      runClean sf cwd fs = ⟨none, expectedAfter fs (designatedList sf cwd), designatedList sf cwd⟩) := by
  unfold runClean
  cases ht : targets sf cwd fs with
  | error e =>
    refine .inl ⟨Classical.byContradiction fun hne => ?_, e, rfl⟩
    have := (targets_ok_iff (sf := sf) (cwd := cwd) (fs := fs)).2 ⟨fun t ht n hn => by
      cases h : lookupVar sf.vars n with
      | none => exact absurd ⟨t, ht, n, hn, h⟩ hne
      | some v => rfl, rfl⟩
    rw [ht] at this; cases this
  | ok ts =>
    obtain ⟨hdef, rfl⟩ := targets_ok_iff.1 ht
    cases hf : (designatedList sf cwd).find? (fun t => containsSpokfile t sf.path) with
    | some t =>
      exact .inr (.inl ⟨⟨t, List.mem_of_find?_eq_some hf, List.find?_some (p := fun t => containsSpokfile t sf.path) hf⟩,
        t, by simp only [hf]⟩)
    | none =>
      exact .inr (.inr ⟨hdef, fun d hd => by simpa using List.find?_eq_none.1 hf d hd, by simp only [hf, foldl_removeAll]⟩)

theorem runClean_ok {sf : SpokFile} {cwd : Str} {fs : FS} (h : (runClean sf cwd fs).err = none) :
    (∀ d ∈ designatedList sf cwd, containsSpokfile d sf.path = false) ∧
    (runClean sf cwd fs).fs = expectedAfter fs (designatedList sf cwd) ∧
    (runClean sf cwd fs).removed = designatedList sf cwd := by
  rcases runClean_cases sf cwd fs with ⟨_, e, h'⟩ | ⟨_, t, h'⟩ | ⟨_, hs, h'⟩ <;> rw [h'] at h ⊢
  · cases h
  · cases h
  · exact ⟨hs, rfl, rfl⟩

/-! ## handleClean: the user's task, or spok's own cleaning -/

theorem handleClean_of_no_task {sf : SpokFile} (cwd : Str) (fs : FS) (run : FS → FS × Bool)
    (h : sf.hasTask cleanName = false) : handleClean sf cwd fs run = runClean sf cwd fs := by
  simp [handleClean, h]

theorem handleClean_of_task {sf : SpokFile} (cwd : Str) (fs : FS) (run : FS → FS × Bool)
    (h : sf.hasTask cleanName = true) :
    handleClean sf cwd fs run = ⟨if (run fs).2 then none else some .taskFailed, (run fs).1, []⟩ := by
  simp [handleClean, h]

/-! ## the link resolution of `Clean.lean` is a `physical`: clean absolute paths in, clean absolute paths out -/

theorem resolveDir_abs (links : List (Str × Str)) : ∀ (fuel : Nat) (cs : List Str) (cur : Str), isAbs cur = true →
    isAbs (resolveDir links fuel cs cur) = true
  | 0, _, _, h => by simpa [resolveDir] using h
  | _ + 1, [], _, h => by simpa [resolveDir] using h
  | fuel + 1, c :: rest, cur, h => by
    unfold resolveDir
    simp only []
    split
    · exact resolveDir_abs links fuel rest _ (resolveDir_abs links fuel _ _ rfl)
    · exact resolveDir_abs links fuel rest _ (cleanAbs_join h).1

theorem physOf_cleanAbs (links : List (Str × Str)) (s : Str) (h : CleanAbs s) : CleanAbs (physOf links s) := by
  unfold physOf
  split
  · exact h
  · exact cleanAbs_join (resolveDir_abs links _ _ _ rfl)

end Spok.Clean
