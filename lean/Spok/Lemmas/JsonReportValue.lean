import Spok.Lemmas.JsonReportScan
/-! # The `--json` report as a value and as bytes: `encJ (jsonDoc rs)` is `encReport` of the same results -/
namespace Spok.Json
open Spok Spok.App

mutual
/-- `json.Marshal` of a value tree in compact form (object members in the order given) -/
def encJ : JVal → Bytes
  | .null => kNull
  | .bool b => encBool b
  | .num n => natDigits n
  | .str s => encStr (strBytes s)
  | .arr xs => 91 :: (encJs xs ++ [93])
  | .obj kvs => 123 :: (encKVs kvs ++ [125])
def encJs : List JVal → Bytes
  | [] => []
  | [x] => encJ x
  | x :: y :: r => encJ x ++ 44 :: encJs (y :: r)
def encKVs : List (String × JVal) → Bytes
  | [] => []
  | [(k, v)] => encStr (strBytes k) ++ 58 :: encJ v
  | (k, v) :: y :: r => encStr (strBytes k) ++ 58 :: encJ v ++ 44 :: encKVs (y :: r)
end

theorem encJs_map {α : Type} (f : α → JVal) : ∀ (l : List α), encJs (l.map f) = joinComma (l.map fun x => encJ (f x))
  | [] => by simp [encJs, joinComma]
  | [x] => by simp [encJs, joinComma]
  | x :: y :: r => by
    have := encJs_map f (y :: r)
    simp only [List.map_cons] at this ⊢
    simp only [encJs, joinComma, this]

theorem encJ_cmdJson (c : CmdResult) : encJ (cmdJson c) = encCmd (cmdB c) := by
  simp only [cmdJson, encJ, encKVs, encCmd, cmdB, kCmd_eq, kStdout_eq, kStderr_eq, kStatus_eq,
    List.cons_append, List.append_assoc, List.nil_append]

theorem encJ_resultJson (r : Result) : encJ (resultJson r) = encResult (resultB r) := by
  have hc : encJ (if r.cmds.isEmpty then JVal.null else .arr (r.cmds.map cmdJson)) = encCmds (r.cmds.map cmdB) := by
    cases h : r.cmds with
    | nil => simp [encJ, encCmds]
    | cons c cs =>
      simp only [List.isEmpty_cons, Bool.false_eq_true, if_false, encJ, encCmds, List.map_cons, encArr]
      have := encJs_map cmdJson (c :: cs)
      simp only [List.map_cons] at this
      rw [this]
      simp [encJ_cmdJson]
      rfl
  simp only [resultJson, encJ, encKVs, encResult, resultB, hc, kTask_eq, kResults_eq, kSkipped_eq,
    List.cons_append, List.append_assoc, List.nil_append]

/-- the value-level document of `Spok.App` (`Props/C20.lean`) and the byte-level report are the same thing: compact
    `json.Marshal` of `jsonDoc rs` IS `encReport` of the results -/
theorem encJ_jsonDoc (rs : List Result) : encJ (jsonDoc rs) = encReport (rs.map resultB) := by
  simp only [jsonDoc, encJ, encReport, encArr]
  rw [encJs_map]
  simp [encJ_resultJson]
  rfl

end Spok.Json
