import Spok.Hash
/-! # The digest function (`Spok.Hash`) in closed form (`digest_eq`) and what makes it decide its input: the byte order is
the lexicographic order of core, sorting forgets arrival order, hex and fixed-width concatenation are injective, and
"equal images ⇒ equal multisets or a collision" (`regs_perm_of_digest_eq`). -/
namespace Spok.Hash

theorem ble_iff_le : ∀ (a b : Bytes), ble a b = true ↔ a ≤ b
  | [], b => by simp [ble]
  | _ :: _, [] => by simp [ble]
  | a :: as, b :: bs => by rw [List.cons_le_cons_iff, ← ble_iff_le as bs]; simp [ble]

theorem ble_total (a b : Bytes) : (ble a b || ble b a) = true := by
  simpa only [Bool.or_eq_true, ble_iff_le] using List.le_total a b

theorem ble_trans (a b c : Bytes) : ble a b = true → ble b c = true → ble a c = true := by
  simpa only [ble_iff_le] using List.le_trans

theorem ble_antisymm (a b : Bytes) : ble a b = true → ble b a = true → a = b := by
  simpa only [ble_iff_le] using List.le_antisymm

theorem sort_perm (l : List Bytes) : (sort l).Perm l := List.mergeSort_perm l ble
theorem sort_sorted (l : List Bytes) : (sort l).Pairwise (fun a b => ble a b = true) :=
  List.pairwise_mergeSort ble_trans ble_total l

theorem sort_eq_of_perm {l₁ l₂ : List Bytes} (h : l₁.Perm l₂) : sort l₁ = sort l₂ :=
  List.Perm.eq_of_pairwise (fun a b _ _ => ble_antisymm a b) (sort_sorted l₁) (sort_sorted l₂)
    ((sort_perm l₁).trans (h.trans (sort_perm l₂).symm))

theorem perm_of_sort_eq {l₁ l₂ : List Bytes} (h : sort l₁ = sort l₂) : l₁.Perm l₂ :=
  (sort_perm l₁).symm.trans (h ▸ sort_perm l₂)

def unhexDigit (c : Char) : Nat := if c.toNat < 58 then c.toNat - 48 else c.toNat - 87
theorem unhexDigit_hexDigit : ∀ n, n < 16 → unhexDigit (hexDigit n) = n := by decide

def unhexChars : List Char → Bytes
  | a :: b :: rest => UInt8.ofNat (unhexDigit a * 16 + unhexDigit b) :: unhexChars rest
  | _ => []

theorem unhexChars_hexChars (bs : Bytes) : unhexChars (hexChars bs) = bs := by
  induction bs with
  | nil => rfl
  | cons b bs ih =>
    have hb := b.toNat_lt
    simp only [hexChars, unhexChars, ih]
    rw [unhexDigit_hexDigit _ (by omega), unhexDigit_hexDigit _ (Nat.mod_lt _ (by decide))]
    congr 1
    apply UInt8.toNat_inj.mp
    simp
    omega

theorem hex_injective {a b : Bytes} (h : hex a = hex b) : a = b := by
  have := String.ofList_injective h
  rw [← unhexChars_hexChars a, ← unhexChars_hexChars b, this]

theorem flatten_injective_of_length {n : Nat} (hn : 0 < n) :
    ∀ {l₁ l₂ : List Bytes}, (∀ x ∈ l₁, x.length = n) → (∀ x ∈ l₂, x.length = n) →
      l₁.flatten = l₂.flatten → l₁ = l₂
  | [], [], _, _, _ => rfl
  | [], y :: ys, _, h₂, h | y :: ys, [], h₂, _, h => by
    have := congrArg List.length h
    rw [List.flatten_cons, List.length_append, h₂ y (by simp), List.flatten_nil, List.length_nil] at this
    omega
  | x :: xs, y :: ys, h₁, h₂, h => by
    obtain ⟨hxy, hrest⟩ := List.append_inj h (by rw [h₁ x (by simp), h₂ y (by simp)])
    rw [hxy, flatten_injective_of_length hn (fun z hz => h₁ z (by simp [hz])) (fun z hz => h₂ z (by simp [hz])) hrest]

theorem perm_of_map_perm {α β : Type} [DecidableEq α] (f : α → β) :
    ∀ {l₁ l₂ : List α}, (l₁.map f).Perm (l₂.map f) → l₁.Perm l₂ ∨ ∃ x y, x ≠ y ∧ f x = f y := by
  intro l₁
  induction l₁ with
  | nil =>
    intro l₂ h
    have := h.length_eq
    cases l₂ with
    | nil => exact .inl (List.Perm.refl _)
    | cons _ _ => simp at this
  | cons a t ih =>
    intro l₂ h
    have hmem : f a ∈ l₂.map f := h.mem_iff.mp (by simp)
    obtain ⟨b, hb, hfb⟩ := List.mem_map.mp hmem
    by_cases hab : b = a
    · subst hab
      have hp : l₂.Perm (b :: l₂.erase b) := List.perm_cons_erase hb
      have h' : (f b :: t.map f).Perm (f b :: (l₂.erase b).map f) := by
        simpa using h.trans (hp.map f)
      rcases ih h'.cons_inv with h'' | h''
      · exact .inl ((List.Perm.cons b h'').trans hp.symm)
      · exact .inr h''
    · exact .inr ⟨b, a, hab, hfb⟩

def isUnreadable (pe : Path × Entry) : Bool := match pe.2 with | .unreadable => true | _ => false

def itemOf (sha : Bytes → Bytes) (pc : Path × Bytes) : Bytes := item sha pc.1 pc.2

@[simp] theorem jobResult_regular (sha : Bytes → Bytes) (p : Path) (c : Bytes) :
    jobResult sha (p, .regular c) = some (.item (item sha p c)) := rfl
@[simp] theorem jobResult_dir (sha : Bytes → Bytes) (p : Path) : jobResult sha (p, .dir) = none := rfl
@[simp] theorem jobResult_unreadable (sha : Bytes → Bytes) (p : Path) : jobResult sha (p, .unreadable) = some .err := rfl

theorem any_isUnreadable_eq_false {l : List (Path × Entry)} (h : ∀ pe ∈ l, pe.2 ≠ .unreadable) :
    l.any isUnreadable = false := by
  apply List.any_eq_false.mpr
  rintro ⟨p, e⟩ hpe
  cases e <;> first | exact Bool.false_ne_true | exact absurd rfl (h _ hpe)

def regOf (pe : Path × Entry) : Option (Path × Bytes) :=
  match pe.2 with | .regular c => some (pe.1, c) | _ => none

/-- `regs` in the form the list library knows: all that follows about it is an instance of a `filterMap` lemma -/
theorem regs_eq_filterMap : ∀ l : List (Path × Entry), regs l = l.filterMap regOf
  | [] => rfl
  | (p, e) :: t => by cases e <;> simp [regs, regOf, List.filterMap_cons, regs_eq_filterMap t]

theorem results_any_isErr (sha : Bytes → Bytes) (l : List (Path × Entry)) :
    (results sha l).any Res.isErr = l.any isUnreadable := by
  rw [results, List.any_filterMap]
  congr; funext ⟨p, e⟩; cases e <;> rfl

theorem results_items (sha : Bytes → Bytes) (l : List (Path × Entry)) :
    (results sha l).filterMap Res.item? = (regs l).map (itemOf sha) := by
  rw [results, regs_eq_filterMap, List.filterMap_filterMap, List.map_filterMap]
  congr; funext ⟨p, e⟩; cases e <;> rfl

theorem results_filter_dirs (sha : Bytes → Bytes) (l : List (Path × Entry)) :
    results sha (l.filter (fun pe => pe.2 ≠ .dir)) = results sha l := by
  rw [results, results, List.filterMap_filter]
  congr; funext ⟨p, e⟩; cases e <;> rfl

theorem digest_eq (sha : Bytes → Bytes) (l : List (Path × Entry)) :
    digest sha l = if l.any isUnreadable then .error .unreadable
      else .ok (hex (sha (sort ((regs l).map (itemOf sha))).flatten)) := by
  simp only [digest, finish, results_any_isErr, results_items]

theorem finish_perm (sha : Bytes → Bytes) {rs₁ rs₂ : List Res} (h : rs₁.Perm rs₂) :
    finish sha rs₁ = finish sha rs₂ := by
  simp only [finish, h.any_eq, sort_eq_of_perm (h.filterMap Res.item?)]

theorem digest_perm (sha : Bytes → Bytes) {l₁ l₂ : List (Path × Entry)} (h : l₁.Perm l₂) : digest sha l₁ = digest sha l₂ :=
  finish_perm sha (h.filterMap (jobResult sha))

theorem regs_perm {l₁ l₂ : List (Path × Entry)} (h : l₁.Perm l₂) : (regs l₁).Perm (regs l₂) := by
  simpa only [regs_eq_filterMap] using h.filterMap regOf

theorem mem_regs {p : Path} {c : Bytes} {l : List (Path × Entry)} : (p, c) ∈ regs l ↔ (p, Entry.regular c) ∈ l := by
  rw [regs_eq_filterMap, List.mem_filterMap]
  constructor
  · rintro ⟨⟨q, e⟩, h, he⟩
    cases e <;> simp only [regOf, Option.some.injEq, Prod.mk.injEq, reduceCtorEq] at he
    obtain ⟨rfl, rfl⟩ := he; exact h
  · exact fun h => ⟨_, h, rfl⟩

theorem mem_regs_listing {fs : Path → Entry} {paths : List Path} {p : Path} {c : Bytes} :
    (p, c) ∈ regs (listing fs paths) ↔ p ∈ paths ∧ fs p = .regular c := by
  simp only [mem_regs, listing, List.mem_map, Prod.mk.injEq]
  exact ⟨fun ⟨_, hq, e, hf⟩ => e ▸ ⟨hq, hf⟩, fun ⟨hp, hf⟩ => ⟨p, hp, rfl, hf⟩⟩

theorem regs_append (l₁ l₂ : List (Path × Entry)) : regs (l₁ ++ l₂) = regs l₁ ++ regs l₂ := by
  simp only [regs_eq_filterMap, List.filterMap_append]

theorem collision_of_item_eq {sha : Bytes → Bytes} (h32 : ∀ x, (sha x).length = 32) {x y : Path × Bytes}
    (hne : x ≠ y) (h : itemOf sha x = itemOf sha y) : Collision sha := by
  obtain ⟨p, c⟩ := x
  obtain ⟨q, d⟩ := y
  obtain ⟨hc, hp⟩ := List.append_inj h (by simp [h32])
  by_cases hcd : c = d
  · by_cases hpq : p = q
    · exact absurd (by rw [hcd, hpq]) hne
    · exact ⟨p, q, hpq, hp⟩
  · exact ⟨c, d, hcd, hc⟩

/-- Equal digests: the same collection of regular (path, content) pairs, or `sha` has a collision (the proof finds it in
    the sorted concatenations, or else in two contents or two paths). -/
theorem regs_perm_of_digest_eq {sha : Bytes → Bytes} (h32 : ∀ x, (sha x).length = 32) {l₁ l₂ : List (Path × Entry)}
    {d : String} (hd₁ : digest sha l₁ = .ok d) (hd₂ : digest sha l₂ = .ok d) :
    (regs l₁).Perm (regs l₂) ∨ Collision sha := by
  have hd : ∀ {l}, digest sha l = .ok d → d = hex (sha (sort ((regs l).map (itemOf sha))).flatten) := by
    intro l h; rw [digest_eq] at h; split at h <;> cases h; rfl
  have hsha := hex_injective ((hd hd₁).symm.trans (hd hd₂))
  by_cases hcat : (sort ((regs l₁).map (itemOf sha))).flatten = (sort ((regs l₂).map (itemOf sha))).flatten
  · have hlen : ∀ l : List (Path × Entry), ∀ x ∈ sort ((regs l).map (itemOf sha)), x.length = 64 := by
      intro l x hx
      obtain ⟨pc, _, rfl⟩ := List.mem_map.mp ((sort_perm _).mem_iff.mp hx)
      simp [itemOf, item, h32]
    have hsort := flatten_injective_of_length (by decide : 0 < 64) (hlen l₁) (hlen l₂) hcat
    exact (perm_of_map_perm (itemOf sha) (perm_of_sort_eq hsort)).imp_right
      fun ⟨x, y, hxy, hf⟩ => collision_of_item_eq h32 hxy hf
  · exact .inr ⟨_, _, hcat, hsha⟩

theorem digest_ok_of_readable (sha : Bytes → Bytes) {files : List (Path × Entry)}
    (h : ∀ pe ∈ files, pe.2 ≠ .unreadable) : ∃ d, digest sha files = .ok d := by
  simp [digest_eq, any_isUnreadable_eq_false h]

theorem digest_error_of_unreadable (sha : Bytes → Bytes) {files : List (Path × Entry)} {p : Path}
    (h : (p, Entry.unreadable) ∈ files) : digest sha files = .error .unreadable := by
  rw [digest_eq]
  have : files.any isUnreadable = true := List.any_eq_true.mpr ⟨_, h, rfl⟩
  simp [this]

end Spok.Hash
