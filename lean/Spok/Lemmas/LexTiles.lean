import Spok.Lemmas.LexWfStates
import Spok.Judge.Syntax
import Spok.Lemmas.Lines
/-! # C16 at the byte level: from the rune-level tiling invariant to offsets into the byte string

`TilesBytes bytes toks` is property C16 as a statement about the input *bytes* and a token stream cut at
its first EOF / ERROR token.  It is derived from `DoneOK` (`Lemmas/LexWfStates`) for the decoded input. -/
namespace Spok
open Spok.Judge (countNL slice)

theorem take_flat (xs ys : List Rune) : (flat (xs ++ ys)).take (bytesLen xs) = flat xs := by
  rw [flat_append]; exact List.take_left' (flat_length xs)

theorem slice_flat (xs v ys : List Rune) :
    slice (flat (xs ++ v ++ ys)) (bytesLen xs) (bytesLen xs + bytesLen v) = flat v := by
  unfold slice
  rw [List.append_assoc, flat_append, List.drop_left' (flat_length xs), flat_append]
  have : bytesLen xs + bytesLen v - bytesLen xs = bytesLen v := by omega
  rw [this]; exact List.take_left' (flat_length v)

theorem TilesR.types {b : List Rune} {ts : List Tok} (h : TilesR b ts) :
    ∀ t ∈ ts, t.ty ≠ .error ∧ t.ty ≠ .eof := by
  induction h with
  | nil => intro t ht; cases ht
  | space _ _ ih => exact ih
  | tok t _ h1 h2 _ _ ih =>
    intro x hx
    simp only [List.mem_append, List.mem_singleton] at hx
    rcases hx with hx | rfl
    · exact ih x hx
    · exact ⟨h1, h2⟩

/-- the bytes `[a, b)` of the input are exactly the bytes of consecutive white-space runes of its decoding -/
def WsGap (bytes : List UInt8) (a b : Nat) : Prop :=
  ∃ pre ws post, decodeAll bytes = pre ++ ws ++ post ∧ (flat pre).length = a ∧ (flat (pre ++ ws)).length = b ∧
    ∀ r ∈ ws, isSpace r = true

/-- **C16** for a token stream cut at its first EOF / ERROR token; `cur` is the offset just after the
    previous token (0 at the beginning).  Every token before the last is neither EOF nor ERROR, starts at or
    after `cur` with only white-space runes in between, spells exactly the input bytes at its offset, and
    its line is one plus the number of newline bytes before its offset; the last token is an ERROR token
    (unconstrained) or the EOF token: empty, at the end of the input, after only white space. -/
inductive TilesFrom (bytes : List UInt8) : Nat → List Tok → Prop
  | error {cur : Nat} {t : Tok} : t.ty = .error → TilesFrom bytes cur [t]
  | eof {cur : Nat} {t : Tok} : t.ty = .eof → t.val = [] → t.pos = bytes.length → WsGap bytes cur t.pos →
      t.line = 1 + countNL (bytes.take t.pos) → TilesFrom bytes cur [t]
  | tok {cur : Nat} {t : Tok} {ts : List Tok} : t.ty ≠ .error → t.ty ≠ .eof → WsGap bytes cur t.pos →
      slice bytes t.pos (t.pos + (flat t.val).length) = flat t.val → t.pos + (flat t.val).length ≤ bytes.length →
      t.line = 1 + countNL (bytes.take t.pos) → TilesFrom bytes (t.pos + (flat t.val).length) ts →
      TilesFrom bytes cur (t :: ts)

def TilesBytes (bytes : List UInt8) (toks : List Tok) : Prop := TilesFrom bytes 0 toks

theorem WsGap.le {bytes : List UInt8} {a b : Nat} (h : WsGap bytes a b) : a ≤ b := by
  obtain ⟨pre, ws, post, -, h1, h2, -⟩ := h
  simp at h1 h2; omega

/-- From runes to bytes.  `b`, the stretch the tokens `ts` tile, is followed in the decoding of `bytes` by
    the white space `ws`; `tail` tiles the bytes from every offset that has only white space between it and
    the end of `b ++ ws` (the end of the last token of `ts`, wherever the white space behind it begins).
    Then `ts ++ tail` tiles the bytes from offset 0. -/
theorem TilesR.toBytes {bytes : List UInt8} {b : List Rune} {ts : List Tok} (h : TilesR b ts) :
    ∀ (ws rest : List Rune) (tail : List Tok), (∀ r ∈ ws, isSpace r = true) →
      b.reverse ++ ws ++ rest = decodeAll bytes →
      (∀ pre ws', pre ++ ws' = b.reverse ++ ws → (∀ r ∈ ws', isSpace r = true) → TilesFrom bytes (bytesLen pre) tail) →
      TilesFrom bytes 0 (ts ++ tail) := by
  induction h with
  | nil => intro ws rest tail hws _ K; simpa using K [] ws (by simp) hws
  | @space b ts r _ hs ih =>
    intro ws rest tail hws hin K
    exact ih (r :: ws) rest tail (by simpa [hs] using hws) (by simpa using hin) fun pre ws' e => K pre ws' (by simpa using e)
  | @tok b ts t _ h1 h2 h3 h4 ih =>
    intro ws rest tail hws hin K
    have hin : b.reverse ++ t.val ++ (ws ++ rest) = decodeAll bytes := by simpa using hin
    rw [List.append_assoc]
    refine ih [] (t.val ++ (ws ++ rest)) (t :: tail) (by simp) (by simpa using hin) fun pre ws' e hws' => ?_
    rw [List.append_nil] at e
    have hb : bytes = flat (b.reverse ++ t.val ++ (ws ++ rest)) := by rw [hin, flat_decodeAll]
    have hpos : t.pos = bytesLen b.reverse := by rw [h3, bytesLen_reverse]
    have hokb : RunesOK b.reverse := fun r hr => decodeAll_runesOK bytes r (by rw [← hin]; simp [hr])
    refine .tok h1 h2 ⟨pre, ws', t.val ++ (ws ++ rest), by rw [← hin, ← e]; simp, by simp, by simp [hpos, ← e], hws'⟩
      ?_ ?_ ?_ ?_
    · rw [hb, hpos, flat_length]; exact slice_flat _ _ _
    · rw [hb, hpos]; simp only [flat_length, bytesLen_append]; omega
    · rw [h4, hpos, hb, List.append_assoc, take_flat, countNL_flat hokb, nl_reverse]
    · rw [hpos, flat_length, ← bytesLen_append]
      exact K _ ws (by simp) hws

theorem TilesFrom.ordered {bytes : List UInt8} {cur : Nat} {ts : List Tok} (h : TilesFrom bytes cur ts) :
    (∀ t ∈ ts, t.ty ≠ .error → cur ≤ t.pos) ∧
    ts.Pairwise (fun a b => b.ty ≠ .error → a.pos + (flat a.val).length ≤ b.pos) := by
  induction h with
  | error he => exact ⟨by intro t ht hne; simp at ht; subst ht; exact absurd he hne, by simp⟩
  | eof _ _ _ h4 _ => exact ⟨by intro t ht _; simp at ht; subst ht; exact h4.le, by simp⟩
  | @tok cur t ts _ _ h3 _ _ _ _ ih =>
    have hle := h3.le
    refine ⟨?_, List.pairwise_cons.mpr ⟨fun b hb hne => ih.1 b hb hne, ih.2⟩⟩
    intro x hx hne
    simp only [List.mem_cons] at hx
    rcases hx with rfl | hx
    · exact hle
    · have := ih.1 x hx hne; omega

theorem lex_tilesBytes (bytes : List UInt8) : TilesBytes bytes (lex bytes).toks := by
  have hok := decodeAll_runesOK bytes
  obtain ⟨ts, e, htoks, ⟨he, b, rest, hin, ht⟩ | ⟨rfl, ht⟩⟩ := lexRunes_doneOK hok
  · rw [show (lex bytes).toks = ts ++ [e] from htoks]
    exact ht.toBytes [] rest [e] (by simp) (by simpa using hin) fun _ _ _ _ => .error he
  · rw [show (lex bytes).toks = ts ++ [_] from htoks]
    have hlen : bytesLen (decodeAll bytes) = bytes.length := by rw [← flat_length, flat_decodeAll]
    refine ht.toBytes [] [] _ (by simp) (by simp) fun pre ws' e hws' => ?_
    refine .eof rfl rfl hlen ⟨pre, ws', [], by simp [e], by simp, by simp [e], hws'⟩ ?_
    simp only [hlen, List.take_length]
    rw [← countNL_flat hok, flat_decodeAll]

end Spok
