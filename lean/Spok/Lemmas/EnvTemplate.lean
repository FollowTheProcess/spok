import Spok.Env
/-! # Lemmas about the template subset: `tokenise` and `render` are inverse to each other between the
accepted command texts and the well-formed piece lists; `subst` and `render` as one fold over the pieces (`text`). -/
namespace Spok.Env
open Spok.Clean (Str)

/-- a name text/template reads as one field: starts with a letter or `_`, continues with letters, digits, `_` -/
def ValidName (n : Str) : Prop := (∃ c cs, n = c :: cs ∧ isNameStart c = true) ∧ ∀ x ∈ n, isNameChar x = true

/-- piece lists whose source text reads back as the same pieces: no text `{` directly before another `{`
    (be it text or the start of a reference), and valid names -/
def WF : List Piece → Prop
  | [] => True
  | .ch c :: rest => ¬ (c = '{' ∧ (render rest).head? = some '{') ∧ WF rest
  | .ref n :: rest => ValidName n ∧ WF rest

theorem not_nameChar_brace : isNameChar '}' = false := by decide

theorem spanName_append {n : Str} (hn : ∀ x ∈ n, isNameChar x = true) (r : Str) :
    spanName (n ++ '}' :: r) = (n, '}' :: r) := by
  induction n with
  | nil => simp [spanName, not_nameChar_brace]
  | cons c cs ih =>
    have hc : isNameChar c = true := hn c (by simp)
    have := ih (fun x hx => hn x (by simp [hx]))
    simp [spanName, hc, this]

theorem spanName_sound (s : Str) :
    s = (spanName s).1 ++ (spanName s).2 ∧ (∀ x ∈ (spanName s).1, isNameChar x = true) := by
  induction s with
  | nil => simp [spanName]
  | cons c cs ih =>
    unfold spanName
    split
    · rename_i hc
      refine ⟨by simp; exact ih.1, ?_⟩
      intro x hx
      simp at hx
      rcases hx with rfl | hx
      · exact hc
      · exact ih.2 x hx
    · simp

theorem parseRef_name {n : Str} (hn : ValidName n) (r : Str) :
    parseRef (n ++ '}' :: '}' :: r) = some (n, r) := by
  obtain ⟨⟨c, cs, rfl, hc⟩, hall⟩ := hn
  unfold parseRef
  rw [spanName_append hall]
  simp [hc]

theorem parseRef_sound {s n r : Str} (h : parseRef s = some (n, r)) :
    s = n ++ '}' :: '}' :: r ∧ ValidName n := by
  unfold parseRef at h
  have hs := spanName_sound s
  split at h
  · rename_i n0 n' r' h1 h2
    split at h
    · rename_i hstart
      obtain ⟨rfl, rfl⟩ := h
      refine ⟨?_, ⟨n0, n', rfl, hstart⟩, ?_⟩
      · conv => lhs; rw [hs.1, h1, h2]
      · rw [← h1]; exact hs.2
    · simp at h
  · simp at h

theorem tokenise_nil : tokenise [] = some [] := by
  rw [tokenise]

theorem tokenise_ch {c : Char} {rest : Str} (h : ¬ (c = '{' ∧ rest.head? = some '{')) :
    tokenise (c :: rest) = (tokenise rest).map (Piece.ch c :: ·) := by
  rw [tokenise]
  simp only [h, if_false]

theorem tokenise_ref {r0 : Str} :
    tokenise ('{' :: '{' :: '.' :: r0) =
      match parseRef r0 with
      | none => none
      | some (n, r) => (tokenise r).map (Piece.ref n :: ·) := by
  rw [tokenise]
  simp only [List.head?_cons, and_self, if_true, List.tail_cons]
  split <;> rename_i h <;> simp [h]

theorem tokenise_other {c : Char} {r0 : Str} (h : c ≠ '.') : tokenise ('{' :: '{' :: c :: r0) = none := by
  rw [tokenise]
  simp only [List.head?_cons, and_self, if_true, List.tail_cons]
  split
  · rename_i heq; simp at heq; exact absurd heq.1 h
  · rfl

theorem tokenise_render {ps : List Piece} (h : WF ps) : tokenise (render ps) = some ps := by
  induction ps with
  | nil => simpa [render] using tokenise_nil
  | cons p rest ih =>
    cases p with
    | ch c =>
      obtain ⟨h1, h2⟩ := h
      simp only [render]
      rw [tokenise_ch h1, ih h2]
      rfl
    | ref n =>
      obtain ⟨h1, h2⟩ := h
      simp only [render, refText, List.cons_append, List.append_assoc, List.nil_append]
      rw [tokenise_ref, parseRef_name h1]
      simp [ih h2]

theorem render_tokenise {s : Str} {ps : List Piece} (h : tokenise s = some ps) : render ps = s ∧ WF ps := by
  -- the branches of `tokenise` in order: 1 the empty text; after `{{.`, 2 no name follows, 3 a reference; 4 `{{` before
  -- anything else; 5 an ordinary character
  fun_induction tokenise s generalizing ps with
  | case1 => cases h; exact ⟨rfl, trivial⟩
  | case2 | case4 => cases h
  | case3 c cs hc r0 ht n r hp ih =>
    obtain ⟨ps', ht', rfl⟩ := Option.map_eq_some_iff.1 h
    obtain ⟨e1, e2⟩ := ih ht'
    obtain ⟨hs, hv⟩ := parseRef_sound hp
    refine ⟨?_, hv, e2⟩
    cases cs with
    | nil => cases hc.2
    | cons c2 r1 =>
      cases hc.1; cases hc.2; cases ht
      simp [render, refText, e1, hs]
  | case5 c cs hc ih =>
    obtain ⟨ps', ht', rfl⟩ := Option.map_eq_some_iff.1 h
    obtain ⟨e1, e2⟩ := ih ht'
    exact ⟨by simp [render, e1], by rw [e1]; exact hc, e2⟩

/-! ## `subst` and `render` are one fold: the text of the pieces, with a reference `n` written as `f n` -/

def text (f : Str → Str) (ps : List Piece) : Str := ps.flatMap fun | .ch c => [c] | .ref n => f n

theorem text_ref (f : Str → Str) (n : Str) (ps : List Piece) : text f (.ref n :: ps) = f n ++ text f ps := rfl

theorem subst_eq_text (vs : Vars) (ps : List Piece) : subst vs ps = text (value vs) ps := by
  induction ps with
  | nil => rfl
  | cons p ps ih => cases p <;> simp [subst, text, ih]

theorem render_eq_text (ps : List Piece) : render ps = text refText ps := by
  induction ps with
  | nil => rfl
  | cons p ps ih => cases p <;> simp [render, text, ih]

theorem text_append (f : Str → Str) (a b : List Piece) : text f (a ++ b) = text f a ++ text f b :=
  List.flatMap_append

theorem text_chs (f : Str → Str) (t : Str) : text f (chs t) = t := by
  induction t with
  | nil => rfl
  | cons c cs ih => simpa [text, chs] using ih

theorem render_append (a b : List Piece) : render (a ++ b) = render a ++ render b := by
  simp only [render_eq_text, text_append]

theorem subst_append (vs : Vars) (a b : List Piece) : subst vs (a ++ b) = subst vs a ++ subst vs b := by
  simp only [subst_eq_text, text_append]

/-- a reference shields what follows it: the text before it never sees the first character after it -/
theorem wf_append_ref {a b : List Piece} {n : Str} (ha : WF (a ++ [.ref n])) (hb : WF b) : WF (a ++ .ref n :: b) := by
  induction a with
  | nil => exact ⟨ha.1, hb⟩
  | cons p rest ih =>
    cases p with
    | ref m => exact ⟨ha.1, ih ha.2⟩
    | ch c =>
      refine ⟨?_, ih ha.2⟩
      have := ha.1
      simpa [render_append, render, refText, List.head?_append] using this

end Spok.Env
