import Spok.Lemmas.LexLine
import Spok.Lemmas.LexTerm
/-! # Every state function of the lexer preserves the line / token-shape invariant

`Inv inp l t`: in a live state with tag `t` the scanner state satisfies `St inp (modeOf t) l` and the
remaining input starts with the spelling of the token the state function is about to `absorb`; at
`.done` the emitted tokens form a complete admissible stream `Str (nLines inp) .top`.

A hand-over keeps `St` (`HandOver.inv`): the stream mode in which a state function leaves its mid state
(`mid`) is the mode of each of its successors — a finite check on the state graph (`modeOf_next`) — and an
ERROR token only comes from a state function whose mid mode admits one (`mid_fails`).  `inv_stepTag` adds,
state function by state function, the step over the prefix action. -/
namespace Spok

/-- the stream mode in which the state function is entered: `mid t` for every live successor of `t` (`modeOf_next`) -/
def modeOf : Tag → Mode
  | .taskBody | .taskCommands | .rightBrace => .body
  | .comment => .afterHash
  | .taskName => .afterTask
  | _ => .top

/-- the stream mode once the state function has emitted its own tokens -/
def mid : Tag → Mode
  | .hash => .afterHash
  | .taskKeyword => .afterTask
  | .leftBrace | .taskBody | .taskCommands => .body
  | _ => .top

def Live (inp : List Rune) (l : L) (t : Tag) : Prop :=
  St inp (modeOf t) l ∧ l.hasPrefix t.spell = true

def Inv (inp : List Rune) (l : L) : Tag → Prop
  | .done => Str (nLines inp) .top l.toks.toList
  | .spin => False
  | t => Live inp l t

variable {inp : List Rune} {l : L} {t : Tag}

theorem live_nil_prefix (l : L) : l.hasPrefix [] = true := rfl

theorem inv_of_live (hf : t.final = false) (h : Live inp l t) : Inv inp l t := by
  cases t <;> first | exact h | cases hf

/-- the shape automaton follows the state graph -/
theorem modeOf_next {t' : Tag} (h : t' ∈ nextTags t) : t'.final = false → modeOf t' = mid t := by
  revert t'; cases t <;> decide

theorem mid_fails (h : t.fails = true) : mid t = .top ∨ mid t = .body := by
  cases t <;> first | exact Or.inl rfl | exact Or.inr rfl | cases h

theorem HandOver.inv {p : L × Tag} (h : HandOver t l p) (hs : St inp (mid t) l) : Inv inp p.1 p.2 := by
  cases h with
  | stay hl he hp =>
    exact inv_of_live he.2.1 ⟨modeOf_next he.1 he.2.1 ▸ hs.readsTo hl, by rw [hl.hasPrefix]; exact hp⟩
  | take hl hm _ hk =>
    exact inv_of_live hk.final ⟨modeOf_next hm hk.final ▸ hs.readsTo hl, by rw [hk.spell]; rfl⟩
  | error hl hf => exact fin_error (hs.readsTo hl).loose (mid_fails hf)
  | eof hl ht => subst ht; exact fin_eof (hs.readsTo hl)

theorem Live.absorbed {ty : TT} {m : Mode} (h : Live inp l t) (ht : trans (modeOf t) ty = some m)
    (hs : ∀ c ∈ t.spell, c ≠ NL := by decide) : St inp m ((l.absorb t.spell.length).emit ty) :=
  (h.1.absorb h.2 hs).emit ht

theorem Live.right_ne_nil {c : Nat} {s : List Nat} (h : Live inp l t) (hs : t.spell = c :: s := by rfl) : l.right ≠ [] :=
  L.right_ne_nil_of_hasPrefix (hs ▸ h.2)

theorem inv_stepTag (t : Tag) (h : Inv inp l t) : Inv inp (stepTag l t).1 (stepTag l t).2 := by
  cases t <;> simp only [stepTag]
  case start => exact lexStart_out.1.inv h.1.skipWs
  case hash => exact (lexHash_out h.right_ne_nil).inv (h.absorbed rfl)
  case comment => exact lexComment_out.inv ((h.1.readsTo (scanComment_reads l)).emit rfl)
  case taskKeyword => exact (lexTaskKeyword_out h.right_ne_nil).inv (h.absorbed rfl).skipWs
  case leftParen => exact (lexLeftParen_out h.right_ne_nil).inv (h.absorbed rfl).skipWs
  case rightParen => exact (lexRightParen_out h.right_ne_nil).inv (h.absorbed rfl).skipWs
  case outputOp => exact (lexOutputOp_out h.right_ne_nil).inv (h.absorbed rfl).skipWs
  case leftBrace => exact (lexLeftBrace_out h.right_ne_nil).inv (h.absorbed rfl).skipWs
  case rightBrace => exact (lexRightBrace_out h.right_ne_nil).inv (h.absorbed rfl)
  case taskBody =>
    obtain ⟨l1, rfl | rfl, ho⟩ := lexTaskBody_out (l := l)
    · exact ho.inv h.1
    · exact ho.inv h.1.skipWs
  case taskCommands =>
    obtain ⟨l1, hs, ho⟩ := lexTaskCommands_out (P := St inp .body) (l := l)
      (fun m r rs hp _ _ => ((hp.readsTo (.peek m)).stripCR.emit rfl).skipWs)
      (fun m r rs s hp _ _ hs hb => by rcases hs with rfl | rfl <;> exact (hp.readsTo (.next_any m)).absorb hb (by decide))
      (fun m r rs hp _ _ => hp.readsTo (.next_any m))
      (fun m r rs hp _ _ => closeCmd_ind (fun m h => h.readsTo (.peek m)) (fun _ h hs => h.stepBack hs (by decide))
        (fun _ => St.stripCR) (fun _ h _ => h.emit rfl) (fun _ h _ => h.skipWs) hp)
      h.1
    exact ho.inv hs
  case taskName => exact lexTaskName_out.inv ((h.1.readsTo (scanIdent_reads l)).emit rfl).skipWs
  case ident => exact lexIdent_out.1.inv ((h.1.readsTo (scanIdent_reads l)).emit rfl).skipWs
  case args => exact lexArgs_out.inv h.1.skipWs
  case comma => exact (lexComma_out h.right_ne_nil).inv (h.absorbed rfl).skipWs
  case declare =>
    have hr := skipWs_right_of_hasPrefix h.2 (by decide)
    have h0 : Live inp (skipWs l) .declare := ⟨h.1.skipWs, by rw [L.hasPrefix_congr hr]; exact h.2⟩
    exact (lexDeclare_out h0.right_ne_nil).inv (h0.absorbed rfl).skipWs
  case string =>
    obtain ⟨l', hs, e⟩ | ⟨l', hs, ho⟩ := lexString_out (l := l)
    · rw [e]; exact fin_error (h.1.scanString.2 l' hs) (Or.inl rfl)
    · exact ho.inv ((h.1.scanString.1 l' hs).emit rfl)
  case declString =>
    obtain ⟨l', hs, e⟩ | ⟨l', hs, ho⟩ := lexDeclString_out (l := l)
    · rw [e]; exact fin_error (h.1.scanString.2 l' hs) (Or.inl rfl)
    · obtain ⟨m, r, e⟩ := declTail_reads (l'.emit .string)
      exact ho.inv (e ▸ (((h.1.scanString.1 l' hs).emit rfl).readsTo r).discard)
  case done | spin => exact h

theorem inv_init (hok : RunesOK inp) : Inv inp (L.init inp) .start :=
  ⟨⟨hok, by simp [L.init], by simp [L.init], by simp [L.init], by simp [L.init, nLines], fun _ hs => hs⟩, rfl⟩

theorem lexRunes_str (rs : List Rune) (hok : RunesOK rs) : Str (nLines rs) .top (lexRunes rs).toks := by
  obtain ⟨l, h, e⟩ := lexRunes_inv (I := Inv rs) (fun _ t => inv_stepTag t) rs (inv_init hok)
  rw [e]; exact h

end Spok
