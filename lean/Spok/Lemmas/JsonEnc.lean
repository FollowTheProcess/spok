import Spok.Lemmas.JsonStr
/-! # The scanner over `encStr`, the punctuation of objects and arrays, and the whole of what `Dump` writes; torn
writes are syntax errors -/
namespace Spok.Json
open Spok

def VStart (stp : Step) : Prop := stp = .beginValue ∨ stp = .beginValueOrEmpty

/-- a state in which `"` opens a string -/
def Opens (stp : Step) : Prop := VStart stp ∨ stp = .beginString ∨ stp = .beginStringOrEmpty

theorem feed_open {stp : Step} (h : Opens stp) (stk : List PS) : feed (St stp stk) 34 = St .inString stk := by
  rw [feed_St]
  rcases h with (rfl | rfl) | rfl | rfl <;> (unfold stepFn; simp [beginValue, beginString, isSpace])

theorem seg_encStr {stp : Step} (h : Opens stp) {stk : List PS} (hs : stk ≠ []) (s : Bytes) :
    Seg (St stp stk) (encStr s) (St .endValue stk) :=
  Seg.step (NA_St hs) (feed_open h stk) (((piece_encBody s).seg hs).append (Seg.step (NA_St hs) inStr_quote (Seg.nil _)))

theorem feed_colon (rest : List PS) : feed (St .endValue (.objKey :: rest)) 58 = St .beginValue (.objVal :: rest) := by
  rw [feed_St]; unfold stepFn; simp [endValue, isSpace]

theorem feed_comma (rest : List PS) : feed (St .endValue (.objVal :: rest)) 44 = St .beginString (.objKey :: rest) := by
  rw [feed_St]; unfold stepFn; simp [endValue, isSpace]

theorem feed_arr_comma (rest : List PS) : feed (St .endValue (.arrVal :: rest)) 44 = St .beginValue (.arrVal :: rest) := by
  rw [feed_St]; unfold stepFn; simp [endValue, isSpace]

theorem feed_open_obj {stp : Step} (hv : VStart stp) {stk : List PS} (hd : stk.length < maxNestingDepth) :
    feed (St stp stk) 123 = St .beginStringOrEmpty (.objKey :: stk) := by
  rw [feed_St]
  rcases hv with rfl | rfl <;> (unfold stepFn; simp [beginValue, isSpace, Sc.push]; omega)

theorem feed_open_arr {stp : Step} (hv : VStart stp) {stk : List PS} (hd : stk.length < maxNestingDepth) :
    feed (St stp stk) 91 = St .beginValueOrEmpty (.arrVal :: stk) := by
  rw [feed_St]
  rcases hv with rfl | rfl <;> (unfold stepFn; simp [beginValue, isSpace, Sc.push]; omega)

/-- `}` and `]` in whatever state hands them to `endValue`: after a member or item, after a number, or at once after the
    opening bracket (`feed` in those states is `endValue` by computation) -/
theorem endValue_close (stp : Step) (stk : List PS) :
    endValue (St stp (.objVal :: stk)) 125 = after stk ∧ endValue (St stp (.arrVal :: stk)) 93 = after stk := by
  simp [endValue, isSpace, pop_St]

theorem seg_arr_body {stk : List PS} (items : List Bytes)
    (hitem : ∀ it ∈ items, ∀ stp, VStart stp → Seg (St stp (.arrVal :: stk)) it (St .endValue (.arrVal :: stk))) :
    Seg (St .beginValueOrEmpty (.arrVal :: stk)) (joinComma items ++ [93]) (after stk) := by
  refine seg_list (NA_St (by simp)) (NA_St (by simp)) (feed_arr_comma stk) ?_ ?_ items
    fun it hit => ⟨hitem it hit _ (Or.inr rfl), hitem it hit _ (Or.inl rfl)⟩
  all_goals exact (endValue_close _ stk).2

theorem seg_entry {stp : Step} (h : Opens stp) (rest : List PS) (kv : KV) :
    Seg (St stp (.objKey :: rest)) (encEntry kv) (St .endValue (.objVal :: rest)) :=
  (seg_encStr h (by simp) kv.1).append
    (Seg.step (NA_St (by simp)) (feed_colon rest) (seg_encStr (.inl (.inl rfl)) (by simp) kv.2))

/-- what `Dump` writes is valid JSON, and every strict prefix of it — whatever a torn write leaves behind — is rejected
    by the scanner -/
theorem doc_encodeMap (m : List KV) : Doc (encodeMap m) := by
  refine doc_of_seg ?_
  rw [show feed Sc.init 123 = _ from feed_open_obj (.inl rfl) (stk := []) (by decide)]
  refine seg_list (NA_St (by simp)) (NA_St (by simp)) (feed_comma []) ?_ ?_ _ ?_
  iterate 2 exact (endValue_close _ []).1
  intro it hit
  obtain ⟨kv, _, rfl⟩ := List.mem_map.mp hit
  exact ⟨seg_entry (.inr (.inr rfl)) [] kv, seg_entry (.inr (.inl rfl)) [] kv⟩

end Spok.Json
