import Spok.Lemmas.Utf8
import Spok.Lemmas.ParseTreeOK
import Spok.Lemmas.RT.Trim
/-! # The formatted text of a parsed file decodes to itself

`format_selfDec`: for a successfully parsed byte string, `decodeAll (flat (format tree)) = format tree`
(this is what lets the byte-level round-trip statements be derived from the rune-level ones).

Every text of the tree is a slice of `decodeAll bs` (`parse_treeOK`).  A comment, string or command text
was followed in the input by an ASCII rune or by nothing, so it decodes to itself whatever
non-continuation bytes follow it (`selfDec_of_slice`: decoding is suffix-closed, and a truncated sequence
at the end of the slice stays invalid); a name is made of identifier runes — never U+FFFD, hence valid
runes — and decodes to itself whatever follows (`StL`).  The formatter puts one of its literals, a
non-empty text of valid runes (`Lit`), after every text of the first kind (`Pre`: "can be put in front
of anything self-decoding"). -/
namespace Spok.PW
open Spok

/-- a rune that decodes from its own bytes whatever follows (every valid rune: `Rune.Valid.decode1_eq`) -/
def StR (r : Rune) : Prop := ∀ rest', decode1 r.b0 (r.more ++ rest') = r

def StL (v : List Rune) : Prop := ∀ r ∈ v, StR r

theorem StL.decode {v : List Rune} (h : StL v) : ∀ b, decodeAll (flat v ++ b) = v ++ decodeAll b :=
  decodeAll_flat_append h

theorem StL.append {a b : List Rune} (ha : StL a) (hb : StL b) : StL (a ++ b) := by
  intro r hr
  simp only [List.mem_append] at hr
  rcases hr with hr | hr
  · exact ha r hr
  · exact hb r hr

/-! ## self-decoding prefixes -/

def Pre (v : List Rune) : Prop := ∀ rest, SelfDec rest → SelfDec (v ++ rest)

theorem Pre.nil : Pre [] := fun _ h => h

theorem Pre.append {a b : List Rune} (ha : Pre a) (hb : Pre b) : Pre (a ++ b) := by
  intro rest hr
  rw [List.append_assoc]
  exact ha _ (hb _ hr)

theorem StL.pre {a : List Rune} (h : StL a) : Pre a := by
  intro rest hr b hb
  rw [flat_append, List.append_assoc, h.decode, hr b hb, List.append_assoc]

theorem Pre.selfDec {v : List Rune} (h : Pre v) : SelfDec v := by
  simpa using h [] selfDec_nil

theorem Pre.flatten {xs : List (List Rune)} (h : ∀ x ∈ xs, Pre x) : Pre xs.flatten := by
  induction xs with
  | nil => exact Pre.nil
  | cons x xs ih =>
    exact (h x (by simp)).append (ih (fun y hy => h y (by simp [hy])))

theorem Pre.joinR {sep : List Rune} (hs : Pre sep) : ∀ {xs : List (List Rune)}, (∀ x ∈ xs, Pre x) → Pre (joinR sep xs)
  | [], _ => Pre.nil
  | [x], h => h x (by simp)
  | x :: y :: xs, h => by
    exact ((h x (by simp)).append hs).append (Pre.joinR hs (fun z hz => h z (by simp [hz])))

def Lit (v : List Rune) : Prop := v ≠ [] ∧ ∀ r ∈ v, r.Valid

theorem Lit.pre {v : List Rune} (h : Lit v) : Pre v := StL.pre fun r hr => (h.2 r hr).decode1_eq

/-- the literal does not begin with a continuation byte, which is all `v` asks of what follows it -/
theorem Pre.wrap {a v l : List Rune} (ha : Pre a) (hv : SelfDec v) (hl : Lit l) : Pre (a ++ v ++ l) := by
  intro rest hr
  rw [List.append_assoc, List.append_assoc]
  refine ha _ (hv.append (hl.pre rest hr) (.inr ?_))
  obtain ⟨r, l', rfl⟩ := List.exists_cons_of_ne_nil hl.1
  exact (hl.2 r (by simp)).cont.1

/-! ## the texts of a parsed tree: slices of a decoding -/

theorem decodeAll_suffix : ∀ (pre : List Rune) (bs : List UInt8) (rest : List Rune), decodeAll bs = pre ++ rest →
    decodeAll (flat rest) = rest
  | [], bs, rest, h => by rw [← show decodeAll bs = rest from h, flat_decodeAll]
  | p :: pre, [], rest, h => by simp [decodeAll] at h
  | p :: pre, b0 :: tl, rest, h => by
    rw [decodeAll_cons] at h
    exact decodeAll_suffix pre _ rest (List.cons.inj h).2

theorem selfDec_of_slice {bs : List UInt8} {pre v post : List Rune} (h : decodeAll bs = pre ++ v ++ post)
    (hg : ∀ r ∈ post.head?, r.cp ≠ 0xFFFD) : SelfDec v := by
  have h1 : decodeAll (flat (v ++ post)) = v ++ post := decodeAll_suffix pre bs (v ++ post) (by rw [h]; simp)
  have h2 : decodeAll (flat post) = post := decodeAll_suffix (pre ++ v) bs post h
  have hnc : NonCont (flat post) := by
    cases post with
    | nil => trivial
    | cons r rest => exact (valid_of_mem_decodeAll (by rw [h]; simp) (.inl (hg r rfl))).cont.1
  rw [flat_append, decodeAll_append _ _ hnc, h2] at h1
  exact selfDec_iff.mpr (List.append_cancel_right h1)

section
variable {bs : List UInt8}

theorem ascHead_head {post : List Rune} (h : AscHead post) : ∀ r ∈ post.head?, r.cp ≠ 0xFFFD := by
  cases post with
  | nil => simp
  | cons r rest => have : r.cp < 128 := h; simp; omega

/-- a piece `w` of the text that is cut off at the end by spaces only is followed by a space or by what
    followed the text -/
theorem SlA.selfDec_of_split {v w ws1 ws2 : List Rune} (h : SlA (decodeAll bs) v) (hv : v = ws1 ++ w ++ ws2)
    (hws : ∀ r ∈ ws2, isSpace r = true) : SelfDec w := by
  obtain ⟨pre, post, h, ha⟩ := h
  refine selfDec_of_slice (bs := bs) (pre := pre ++ ws1) (post := ws2 ++ post) (by rw [h, hv]; simp) ?_
  cases ws2 with
  | nil => exact ascHead_head ha
  | cons x ws =>
    rintro r ⟨⟩ hc
    have := hws x (by simp)
    rw [isSpace, hc, isSpaceCp_runeError] at this; cases this

theorem SlA.selfDec {v : List Rune} (h : SlA (decodeAll bs) v) : SelfDec v :=
  h.selfDec_of_split (ws1 := []) (ws2 := []) (by simp) (by simp)

theorem SlA.selfDec_trim {v : List Rune} (h : SlA (decodeAll bs) v) : SelfDec (trimSpace v) :=
  let ⟨_, _, hv, hws⟩ := trimSpace_split v
  h.selfDec_of_split hv hws

theorem IdTxt.pre {v : List Rune} (h : IdTxt (decodeAll bs) v) : Pre v := by
  obtain ⟨⟨pre, post, hsl⟩, hid⟩ := h
  refine StL.pre fun r hr => (valid_of_mem_decodeAll (by rw [hsl]; simp [hr]) (.inl fun hc => ?_)).decode1_eq
  have := List.all_eq_true.mp hid r hr
  simp [isIdent, isLetter, hc, isLetterCp_runeError] at this
end

theorem Lit.of_asc {v : List Rune}
    (h : (!v.isEmpty && v.all fun r => decide (r.cp < 128) && decide (r = asc r.cp)) = true) : Lit v := by
  simp only [Bool.and_eq_true, Bool.not_eq_true', List.isEmpty_eq_false_iff, List.all_eq_true, decide_eq_true_eq] at h
  exact ⟨h.1, fun r hr => (h.2 r hr).2 ▸ asc_valid (h.2 r hr).1⟩

structure LitsOK (L : Lits) : Prop where
  commentOpen : Lit L.commentOpen
  nl : Lit L.nl
  quote : Lit L.quote
  assignOp : Lit L.assignOp
  taskKw : Lit L.taskKw
  lparen : Lit L.lparen
  rparen : Lit L.rparen
  sep : Lit L.sep
  arrow : Lit L.arrow
  bodyOpen : Lit L.bodyOpen
  indent : Lit L.indent
  bodyClose : Lit L.bodyClose
  emptyComment : Lit L.emptyComment

theorem stdLits_ok : LitsOK stdLits := by constructor <;> exact .of_asc (by decide)

/-! ## the formatter -/

section
variable {bs : List UInt8} {L : Lits} (hL : LitsOK L)
include hL

theorem pre_quoted {s : List Rune} (h : SlA (decodeAll bs) s) : Pre (L.quote ++ s ++ L.quote) :=
  hL.quote.pre.wrap h.selfDec hL.quote

theorem pre_printArg {a : Arg} (h : argQ (decodeAll bs) a) : Pre (printArg L a) := by
  cases a with
  | str s => exact pre_quoted hL h
  | ident n => exact IdTxt.pre h

theorem pre_args {as : List Arg} (h : ∀ a ∈ as, argQ (decodeAll bs) a) : Pre (joinR L.sep (as.map (printArg L))) := by
  refine Pre.joinR hL.sep.pre fun x hx => ?_
  obtain ⟨a, ha, rfl⟩ := List.mem_map.mp hx
  exact pre_printArg hL (h a ha)

theorem pre_printComment {t : List Rune} (h : SlA (decodeAll bs) t) : Pre (printComment L t) := by
  unfold printComment
  split
  · exact Pre.nil
  · exact hL.commentOpen.pre.wrap h.selfDec_trim hL.nl

theorem pre_printVal {v : Val} (h : valQ (decodeAll bs) v) : Pre (printVal L v) := by
  cases v with
  | str s => exact pre_quoted hL h
  | ident n => exact IdTxt.pre h
  | call f args => exact (((IdTxt.pre h.1).append hL.lparen.pre).append (pre_args hL h.2)).append hL.rparen.pre

theorem pre_printNode {node : Node} (h : nodeQ (decodeAll bs) node) : Pre (printNode L node) := by
  cases node with
  | comment t =>
    simp only [printNode]
    split
    · exact hL.emptyComment.pre
    · exact pre_printComment hL h
  | assign n v => exact (((IdTxt.pre h.1).append hL.assignOp.pre).append (pre_printVal hL h.2)).append hL.nl.pre
  | task name doc deps outs cmds =>
    obtain ⟨q1, q2, q3, q4, q5⟩ := h
    have hcmds : Pre (cmds.map fun c => L.indent ++ c ++ L.nl).flatten := by
      refine Pre.flatten fun x hx => ?_
      obtain ⟨c, hc, rfl⟩ := List.mem_map.mp hx
      exact hL.indent.pre.wrap (q5 c hc).selfDec hL.nl
    refine ((((((((((pre_printComment hL q2).append hL.taskKw.pre).append (IdTxt.pre q1)).append hL.lparen.pre).append
      (pre_args hL q3)).append hL.rparen.pre).append ?_).append hL.bodyOpen.pre).append hcmds).append hL.bodyClose.pre)
    split
    · exact Pre.nil
    · exact hL.arrow.pre.append (pre_printArg hL (q4 _ (by simp)))
    · exact ((hL.arrow.pre.append hL.lparen.pre).append (pre_args hL q4)).append hL.rparen.pre

theorem pre_printTree {tree : Tree} (h : ∀ n ∈ tree, nodeQ (decodeAll bs) n) : Pre (printTree L tree) := by
  refine Pre.flatten fun x hx => ?_
  obtain ⟨node, hn, rfl⟩ := List.mem_map.mp hx
  exact pre_printNode hL (h node hn)
end

end Spok.PW

namespace Spok

/-- **the formatted text of a successfully parsed file decodes to itself** -/
theorem format_selfDec (bs : List UInt8) : (parse bs).fail = none →
    decodeAll (flat (format (parse bs).tree)) = format (parse bs).tree :=
  fun h => (PW.pre_printTree PW.stdLits_ok (parse_treeOK (decodeAll bs) h).2).selfDec.decode

/-- `# é` + an invalid byte + CRLF, then `x := "` + a truncated three-byte sequence + `"`: the texts of
    the tree contain U+FFFD runes, which only decode to themselves because of what follows them -/
def sdSample : List UInt8 :=
  [35, 32, 0xC3, 0xA9, 0xFF, 13, 10, 120, 32, 58, 61, 32, 34, 0xE2, 0x82, 34, 10]

theorem sdSample_parses : (parse sdSample).fail = none ∧ (parse sdSample).tree.length = 2 := by decide +kernel

example : decodeAll (flat (format (parse sdSample).tree)) = format (parse sdSample).tree :=
  format_selfDec sdSample sdSample_parses.1

end Spok
