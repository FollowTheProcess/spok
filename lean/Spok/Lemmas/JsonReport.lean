import Spok.Json.Report
import Spok.Lemmas.JsonLoad
/-! # Reading back the `--json` report: every reader of `Json/Report.lean` on what its writer wrote -/
namespace Spok.Json
open Spok

/-- the bytes of a literal, character by character.  The kernel evaluates `String.toList` of a literal through its
    UTF-8 byte array, at a cost quadratic in the length; rewriting with this first (a literal is `String.ofList _` by
    definition) makes checking a long expected output linear. -/
theorem ascii_ofList (l : List Char) : ascii (String.ofList l) = l.map fun c => UInt8.ofNat c.toNat := by
  rw [ascii, String.toList_ofList]

theorem ascii_append (a b : String) : ascii (a ++ b) = ascii a ++ ascii b := by
  simp [ascii, String.toList_append]

theorem lit?_append : ∀ (w T : Bytes), lit? w (w ++ T) = some T
  | [], T => by cases T <;> rfl
  | w :: ws, T => by simp [lit?, lit?_append ws T]

theorem pStr_encStr (s T : Bytes) : pStr (encStr s ++ T) = some (sanitize s, T) := by
  simp only [encStr, List.cons_append, List.append_assoc, pStr, show ((34 : UInt8).toNat == 34) = true by decide, if_true]
  rw [takeStr_encBody]
  simp [unqBody_encBody]

def AllDigits (ds : Bytes) : Prop := ∀ d ∈ ds, isDigit d.toNat = true

theorem digit_ofNat {k : Nat} (h : k < 10) : (UInt8.ofNat (48 + k)).toNat = 48 + k := toNat_ofNat_lt (by omega)

theorem natDigits_ind {P : Nat → Bytes → Prop} (one : ∀ n, n < 10 → P n [UInt8.ofNat (48 + n)])
    (more : ∀ n ds, 10 ≤ n → P (n / 10) ds → P n (ds ++ [UInt8.ofNat (48 + n % 10)])) (n : Nat) : P n (natDigits n) := by
  induction n using Nat.strongRecOn with
  | _ n ih =>
    rw [natDigits]
    by_cases h : n < 10
    · rw [dif_pos h]; exact one n h
    · rw [dif_neg h]; exact more n _ (by omega) (ih (n / 10) (by omega))

/-- the decimal form: `0`, or a digit 1–9 followed by digits -/
theorem natDigits_shape (n : Nat) :
    natDigits n = [48] ∨ ∃ d ds, natDigits n = d :: ds ∧ 49 ≤ d.toNat ∧ d.toNat ≤ 57 ∧ AllDigits ds := by
  -- by induction with the case distinction made on `n`: the digits of `n / 10 ≥ 1` do not begin with `0`
  have := natDigits_ind (n := n)
    (P := fun n ds => n = 0 ∧ ds = [48] ∨ 0 < n ∧ ∃ d ds', ds = d :: ds' ∧ 49 ≤ d.toNat ∧ d.toNat ≤ 57 ∧ AllDigits ds')
    (fun n h => by
      by_cases h0 : n = 0
      · exact .inl ⟨h0, by rw [h0]; rfl⟩
      · have := digit_ofNat h
        exact .inr ⟨by omega, _, [], rfl, by omega, by omega, fun _ hd => by simp at hd⟩)
    (fun n ds h ih => by
      rcases ih with ⟨h0, _⟩ | ⟨_, d, ds', rfl, h1, h2, h3⟩
      · omega
      · refine .inr ⟨by omega, d, ds' ++ [UInt8.ofNat (48 + n % 10)], rfl, h1, h2, fun x hx => ?_⟩
        rcases List.mem_append.mp hx with hx | hx
        · exact h3 x hx
        · rw [List.mem_singleton.mp hx, digit_ofNat (Nat.mod_lt n (by decide))]; simp [isDigit]; omega)
  exact this.imp (·.2) (·.2)

theorem readDigits_digit {k : Nat} (h : k < 10) (a : Nat) (T : Bytes) :
    readDigits a (UInt8.ofNat (48 + k) :: T) = readDigits (a * 10 + k) T := by
  rw [readDigits, digitVal, isDigit, digit_ofNat h, if_pos (by simp; omega), Nat.add_sub_cancel_left]

theorem readDigits_natDigits (n : Nat) : ∀ T, readDigits 0 (natDigits n ++ T) = readDigits n T :=
  natDigits_ind (P := fun n ds => ∀ T, readDigits 0 (ds ++ T) = readDigits n T)
    (fun n h T => by rw [List.singleton_append, readDigits_digit h, Nat.zero_mul, Nat.zero_add])
    (fun n ds _ ih T => by
      rw [List.append_assoc, ih, List.singleton_append, readDigits_digit (Nat.mod_lt n (by decide)), Nat.div_add_mod']) n

theorem pNat_digits (n : Nat) (c : UInt8) (T : Bytes) (hc : isDigit c.toNat = false) :
    pNat (natDigits n ++ c :: T) = some (n, c :: T) := by
  have hr : readDigits 0 (natDigits n ++ c :: T) = (n, c :: T) := by rw [readDigits_natDigits, readDigits, if_neg (by simp [hc])]
  rcases natDigits_shape n with h | ⟨d, ds, h, h1, h2, _⟩ <;> rw [h] at hr ⊢
  · exact congrArg some hr
  · rw [List.cons_append, pNat, if_pos (by simp [isDigit]; omega)]; exact congrArg some hr

theorem pSeq_items {α β : Type} (p : Bytes → Option (β × Bytes)) (enc : α → Bytes) (f : α → β)
    (hp : ∀ x T, p (enc x ++ T) = some (f x, T)) :
    ∀ (l : List α) (fuel : Nat) (T : Bytes), l ≠ [] → l.length ≤ fuel →
      pSeq p fuel (joinComma (l.map enc) ++ 93 :: T) = some (l.map f, T)
  | [], _, _, h, _ => absurd rfl h
  | [x], fuel, T, _, hf => by
    obtain ⟨k, rfl⟩ : ∃ k, fuel = k + 1 := ⟨fuel - 1, by simp at hf; omega⟩
    simp [joinComma, pSeq, hp]
  | x :: y :: l, fuel, T, _, hf => by
    obtain ⟨k, rfl⟩ : ∃ k, fuel = k + 1 := ⟨fuel - 1, by simp at hf; omega⟩
    have ih := pSeq_items p enc f hp (y :: l) k T (by simp) (by simp at hf ⊢; omega)
    simp only [List.map_cons] at ih
    simp only [List.map_cons, joinComma, List.append_assoc, List.cons_append, pSeq, hp,
      show ((44 : UInt8).toNat == 44) = true by decide, if_true, ih, Option.map_some]

theorem pArr_items {α β : Type} (p : Bytes → Option (β × Bytes)) (enc : α → Bytes) (f : α → β)
    (hp : ∀ x T, p (enc x ++ T) = some (f x, T)) (hstart : ∀ x, ∃ c r, enc x = c :: r ∧ c.toNat ≠ 93)
    (l : List α) (T : Bytes) : pArr p (encArr (l.map enc) ++ T) = some (l.map f, T) := by
  cases l with
  | nil => simp [encArr, joinComma, pArr]
  | cons x l =>
    have hlen := joinComma_len enc (x :: l)
    obtain ⟨c, r, hx, hc⟩ := hstart x
    obtain ⟨r', hr'⟩ : ∃ r', joinComma ((x :: l).map enc) = c :: r' := by rw [List.map_cons, hx]; exact joinComma_head c r _
    have hc' : (c.toNat == 93) = false := by simpa using hc
    have key := pSeq_items p enc f hp (x :: l) ((91 :: (c :: r' ++ [93]) ++ T).length) T (by simp)
      (by rw [hr'] at hlen; simp only [List.length_cons, List.length_append] at hlen ⊢; omega)
    rw [hr'] at key
    simp only [encArr, hr', List.cons_append, List.append_assoc, pArr, show ((91 : UInt8).toNat == 91) = true by decide,
      if_true, hc', Bool.false_eq_true, if_false]
    simpa using key

theorem pCmd_encCmd (c : BCmd) (T : Bytes) : pCmd (encCmd c ++ T) = some (c.san, T) := by
  simp only [encCmd, List.append_assoc, pCmd, lit?_append, pStr_encStr, Option.bind_eq_bind, Option.bind_some,
    List.cons_append, List.nil_append]
  rw [pNat_digits _ 125 _ (by decide)]
  simp [lit?, BCmd.san]

theorem encCmd_start (c : BCmd) : ∃ b r, encCmd c = b :: r ∧ b.toNat ≠ 93 :=
  ⟨123, _, by simp [encCmd, kCmd, ascii]; rfl, by decide⟩

theorem pCmds_encCmds (cs : List BCmd) (T : Bytes) : pCmds (encCmds cs ++ T) = some (cs.map BCmd.san, T) := by
  unfold encCmds pCmds
  cases cs with
  | nil => simp [lit?_append]
  | cons c cs =>
    have : lit? kNull (encArr ((c :: cs).map encCmd) ++ T) = none := by simp [encArr, kNull, ascii, lit?]
    simp only [List.isEmpty_cons, Bool.false_eq_true, if_false, this]
    exact pArr_items pCmd encCmd BCmd.san pCmd_encCmd encCmd_start (c :: cs) T

theorem pBool_encBool (b : Bool) (T : Bytes) : pBool (encBool b ++ T) = some (b, T) := by
  cases b
  · have : lit? kTrue (kFalse ++ T) = none := by simp [kTrue, kFalse, ascii, lit?]
    simp [pBool, encBool, this, lit?_append]
  · simp [pBool, encBool, lit?_append]

theorem pResult_encResult (r : BResult) (T : Bytes) : pResult (encResult r ++ T) = some (r.san, T) := by
  simp only [encResult, List.append_assoc, pResult, lit?_append, pStr_encStr, pCmds_encCmds, pBool_encBool,
    Option.bind_eq_bind, Option.bind_some, List.cons_append, List.nil_append]
  simp [lit?, BResult.san]

theorem encResult_start (r : BResult) : ∃ b t, encResult r = b :: t ∧ b.toNat ≠ 93 :=
  ⟨123, _, by simp [encResult, kTask, ascii]; rfl, by decide⟩

theorem decReport_encReport (rs : List BResult) : decReport (encReport rs) = some (rs.map BResult.san) := by
  have := pArr_items pResult encResult BResult.san pResult_encResult encResult_start rs []
  simp only [List.append_nil] at this
  simp [decReport, encReport, this]

theorem BCmd.san_text (c : BCmd) (h : c.text) : c.san = c := by
  obtain ⟨h1, h2, h3⟩ := h
  simp [BCmd.san, sanitize_valid _ h1, sanitize_valid _ h2, sanitize_valid _ h3]

theorem BResult.san_text (r : BResult) (h : r.text) : r.san = r := by
  obtain ⟨h1, h2⟩ := h
  have : r.cmds.map BCmd.san = r.cmds := by
    have : ∀ c ∈ r.cmds, BCmd.san c = id c := fun c hc => BCmd.san_text c (h2 c hc)
    rw [List.map_congr_left this]; simp
  simp [BResult.san, sanitize_valid _ h1, this]

end Spok.Json
