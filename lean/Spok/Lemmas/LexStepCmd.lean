import Spok.Lemmas.LexStep
/-! # The command loop `lexTaskCommandsF`, specified once

`lexTaskCommandsF_succ` is the loop body as one equation; `endLine` and `closeCmd` name the two places
where a command ends.  Two facts about the model — ending a line shortens the input, closing a body puts
the cursor back in front of the `}` — and the rule `lexTaskCommandsF_ind` (the induction on the fuel and
the case analysis of the body, with the proof that the fuel `lexTaskCommands` provides is never exhausted)
are what every invariant of the loop is proved from.  `lexTaskCommands_out` puts the loop into the form of
the other state functions: a property kept by the loop holds of a state from which it hands over. -/
namespace Spok
variable {l : L}

/-- a command ends at a newline -/
def endLine (l : L) : L := skipWs ((stripCR (l.peek).1).emit .command)

/-- the body ends at `}`: strip a blank and CRs, emit what is left of the last command (if anything),
    and skip forward again over what was stripped -/
def closeCmd (l : L) : L :=
  let m := stripCR (if (l.peek).1.lastIs SP then (l.peek).1.stepBack else (l.peek).1)
  skipWs (if !m.tokRev.isEmpty then m.emit .command else m)

theorem lexTaskCommandsF_succ (fuel : Nat) (l : L) : lexTaskCommandsF (fuel + 1) l =
    if (l.next).2.cp == NL then lexTaskCommandsF fuel (endLine l)
    else if (l.next).1.hasPrefix [LBRACE, LBRACE] then lexTaskCommandsF fuel ((l.next).1.absorb 2)
    else if (l.next).1.hasPrefix [RBRACE, RBRACE] then lexTaskCommandsF fuel ((l.next).1.absorb 2)
    else if (l.next).2.cp == RBRACE then (closeCmd l, .rightBrace)
    else if (l.next).1.atEOF || (l.next).2.cp == HASH then (l.next).1.error
    else if isASCII (l.next).2 then lexTaskCommandsF fuel (l.next).1
    else (l.peek).1.error := by
  rw [lexTaskCommandsF]; rfl

theorem L.stepBack_right_of_lastIs {c : Nat} (h : l.lastIs c = true) : ∃ r, r.cp = c ∧ l.stepBack.right = r :: l.right := by
  obtain ⟨x, _, _, _, hx, _, _, e⟩ := L.stepBack_of_lastIs h
  exact ⟨x, hx, by rw [e]⟩

theorem stripCR_right (l : L) : ∃ ws : List Rune, (∀ r ∈ ws, isSpace r = true) ∧ (stripCR l).right = ws ++ l.right := by
  refine (stripCR_rule (P := fun m => ∃ ws : List Rune, (∀ r ∈ ws, isSpace r = true) ∧ m.right = ws ++ l.right)
    ⟨[], by simp, rfl⟩ fun m hc ⟨ws, h1, h2⟩ => ?_).1
  obtain ⟨r, hr, hs⟩ := L.stepBack_right_of_lastIs hc
  exact ⟨r :: ws, by simpa [isSpace_of_cp hr isSpaceCp_CR] using h1, by rw [hs, h2]; rfl⟩

theorem endLine_right_le {r : Rune} {rs : List Rune} (hr : l.right = r :: rs) (hc : r.cp = NL) :
    (endLine l).right.length ≤ rs.length := by
  obtain ⟨ws, hws, e⟩ := stripCR_right (l.peek).1
  rw [endLine, skipWs_right, L.emit_right, e, L.peek_right, hr, List.dropWhile_append_of_pos hws]
  simp only [List.dropWhile_cons, isSpace_of_cp hc isSpaceCp_NL, if_true]
  exact (List.dropWhile_sublist _).length_le

theorem closeCmd_right {r : Rune} {rs : List Rune} (hr : l.right = r :: rs) (hc : r.cp = RBRACE) :
    (closeCmd l).right = r :: rs := by
  have h3 : ∃ ws : List Rune, (∀ x ∈ ws, isSpace x = true) ∧
      (if (l.peek).1.lastIs SP then (l.peek).1.stepBack else (l.peek).1).right = ws ++ l.right := by
    split
    · next hsp =>
      obtain ⟨x, hx, hxr⟩ := L.stepBack_right_of_lastIs hsp
      exact ⟨[x], by simpa using isSpace_of_cp hx isSpaceCp_SP, by rw [hxr, L.peek_right]; rfl⟩
    · exact ⟨[], by simp, by simp⟩
  obtain ⟨ws, hws, hw⟩ := h3
  obtain ⟨crs, hcrs, e⟩ := stripCR_right (if (l.peek).1.lastIs SP then (l.peek).1.stepBack else (l.peek).1)
  have hb : ∀ (b : Bool) (m : L), (if b = true then m.emit .command else m).right = m.right := by
    intro b m; cases b <;> rfl
  rw [closeCmd, skipWs_right, hb, e, hw, hr, ← List.append_assoc,
    List.dropWhile_append_of_pos (by simpa [or_imp, forall_and] using ⟨hcrs, hws⟩)]
  simp [isSpace, hc, isSpaceCp_RBRACE]

theorem closeCmd_ind {P : L → Prop} (look : ∀ m, P m → P (m.peek).1)
    (back : ∀ m, P m → m.lastIs SP = true → P m.stepBack) (strip : ∀ m, P m → P (stripCR m))
    (emit : ∀ m, P m → m.tokRev ≠ [] → P (m.emit .command)) (skip : ∀ m, P m → m.tokRev = [] → P (skipWs m))
    (h : P l) : P (closeCmd l) := by
  have h3 : P (if (l.peek).1.lastIs SP then (l.peek).1.stepBack else (l.peek).1) := by
    split
    · next hsp => exact back _ (look _ h) hsp
    · exact look _ h
  unfold closeCmd
  generalize (if (l.peek).1.lastIs SP then (l.peek).1.stepBack else (l.peek).1) = m at h3 ⊢
  simp only []
  split
  · next hne => exact skip _ (emit _ (strip _ h3) (by simpa using hne)) rfl
  · next hne => exact skip _ (strip _ h3) (by simpa using hne)

/-- `r`, just read by the loop, is an ordinary rune of a command -/
def CmdChar (r : Rune) (l1 : L) : Prop :=
  r.cp ≠ NL ∧ l1.hasPrefix [LBRACE, LBRACE] = false ∧ l1.hasPrefix [RBRACE, RBRACE] = false ∧ r.cp ≠ RBRACE ∧
  r.cp ≠ HASH ∧ isASCII r = true

/-- **the loop**: `P` holds at every loop head, `Q` of every way out; with more fuel than input the fuel
    is never exhausted -/
theorem lexTaskCommandsF_ind {P : L → Prop} {Q : L × Tag → Prop}
    (line : ∀ l r rs, P l → l.right = r :: rs → r.cp = NL → P (endLine l))
    (jump : ∀ l r rs s, P l → l.right = r :: rs → r.cp ≠ NL → s = [LBRACE, LBRACE] ∨ s = [RBRACE, RBRACE] →
      (l.next).1.hasPrefix s = true → P ((l.next).1.absorb 2))
    (char : ∀ l r rs, P l → l.right = r :: rs → CmdChar r (l.next).1 → P (l.next).1)
    (close : ∀ l r rs, P l → l.right = r :: rs → r.cp = RBRACE → Q (closeCmd l, .rightBrace))
    (errN : ∀ l, P l → Q (l.next).1.error) (errP : ∀ l, P l → Q (l.peek).1.error) :
    ∀ (fuel : Nat) (l : L), l.right.length < fuel → P l → Q (lexTaskCommandsF fuel l) := by
  intro fuel
  induction fuel with
  | zero => intro l h; omega
  | succ fuel ih =>
    intro l hlt hp
    generalize hq : lexTaskCommandsF (fuel + 1) l = q
    rw [lexTaskCommandsF_succ] at hq
    cases hr : l.right with
    | nil =>
      have he : (l.next).1.atEOF = true := by simp [hr]
      simp only [show (l.next).2 = eofRune by simp [L.next_snd, hr], L.hasPrefix, L.next_right, hr, he] at hq
      exact hq ▸ errN l hp
    | cons r rs =>
      have hn1 : (l.next).1.right = rs := by rw [L.next_right, hr]; rfl
      have hlen : rs.length < fuel := by rw [hr] at hlt; simpa using hlt
      have hab : ((l.next).1.absorb 2).right.length < fuel := by
        rw [L.absorb_right, hn1, List.length_drop]; omega
      rw [show (l.next).2 = r by simp [L.next_snd, hr]] at hq
      obtain ⟨hc, rfl⟩ | ⟨hnl, hq⟩ := ite_cases hq
      · have hc : r.cp = NL := by simpa using hc
        exact ih _ (Nat.lt_of_le_of_lt (endLine_right_le hr hc) hlen) (line l r rs hp hr hc)
      have hnl : r.cp ≠ NL := by simpa using hnl
      obtain ⟨hb, rfl⟩ | ⟨hb1, hq⟩ := ite_cases hq
      · exact ih _ hab (jump l r rs _ hp hr hnl (Or.inl rfl) hb)
      obtain ⟨hb, rfl⟩ | ⟨hb2, hq⟩ := ite_cases hq
      · exact ih _ hab (jump l r rs _ hp hr hnl (Or.inr rfl) hb)
      obtain ⟨hc, rfl⟩ | ⟨hrb, hq⟩ := ite_cases hq
      · exact close l r rs hp hr (by simpa using hc)
      obtain ⟨-, rfl⟩ | ⟨hh, hq⟩ := ite_cases hq
      · exact errN l hp
      obtain ⟨ha, rfl⟩ | ⟨-, rfl⟩ := ite_cases hq
      · refine ih _ (by rw [hn1]; exact hlen) (char l r rs hp hr ⟨hnl, by simpa using hb1, by simpa using hb2,
          by simpa using hrb, ?_, ha⟩)
        simp only [Bool.or_eq_true, not_or] at hh; simpa using hh.2
      · exact errP l hp

/-- **`lexTaskCommands` as a step**: whatever is kept by the loop body (`line`, `jump`, `char`) and by
    closing the body holds of a state from which the loop hands over like any other state function -/
theorem lexTaskCommands_out {P : L → Prop}
    (line : ∀ l r rs, P l → l.right = r :: rs → r.cp = NL → P (endLine l))
    (jump : ∀ l r rs s, P l → l.right = r :: rs → r.cp ≠ NL → s = [LBRACE, LBRACE] ∨ s = [RBRACE, RBRACE] →
      (l.next).1.hasPrefix s = true → P ((l.next).1.absorb 2))
    (char : ∀ l r rs, P l → l.right = r :: rs → CmdChar r (l.next).1 → P (l.next).1)
    (close : ∀ l r rs, P l → l.right = r :: rs → r.cp = RBRACE → P (closeCmd l))
    (h : P l) : ∃ l1, P l1 ∧ HandOver .taskCommands l1 (lexTaskCommands l) := by
  refine lexTaskCommandsF_ind (Q := fun p => ∃ l1, P l1 ∧ HandOver .taskCommands l1 p) line jump char
    ?_ ?_ ?_ _ l (Nat.lt_succ_self _) h
  · intro l r rs hp hr hc
    refine ⟨_, close l r rs hp hr hc, .stay (.refl _) (by decide) ?_ (skipWs_tokRev _)⟩
    simp [Tag.spell, L.hasPrefix, closeCmd_right hr hc, hc]
  · exact fun l hp => ⟨l, hp, .error (.next_any l) rfl⟩
  · exact fun l hp => ⟨l, hp, .error (.peek l) rfl⟩

end Spok
