import Spok.Lemmas.JsonEnc
/-! # Reading back what `Dump` wrote: `load (encodeMap m)` is `m` (sorted, invalid bytes replaced) -/
namespace Spok.Json
open Spok

def sanKV (kv : KV) : KV := (sanitize kv.1, sanitize kv.2)

theorem skipWs_nonspace (c : UInt8) (rest : Bytes) (h : isSpace c.toNat = false) : skipWs (c :: rest) = c :: rest := by
  simp [skipWs, h]

theorem members_step (fuel : Nat) (kv : KV) (T : Bytes) (acc : List KV) :
    members (fuel + 1) (encEntry kv ++ T) acc =
      (match skipWs T with
       | d :: r' => if d.toNat == 44 then members fuel r' (acc ++ [sanKV kv]) else if d.toNat == 125 then .ok (acc ++ [sanKV kv]) else .syntaxErr
       | [] => .syntaxErr) := by
  rw [show encEntry kv ++ T = 34 :: (encBody kv.1 ++ 34 :: 58 :: 34 :: (encBody kv.2 ++ 34 :: T)) by simp [encEntry, encStr]]
  conv => lhs; unfold members
  -- each primitive of `members` meets what `encEntry` wrote: quote, key, quote, colon, quote, value, quote
  simp only [skipWs_nonspace 34 _ (by decide), skipWs_nonspace 58 _ (by decide), takeStr_encBody, unqBody_encBody,
    show ((34 : UInt8).toNat != 34) = false by decide, show ((58 : UInt8).toNat != 58) = false by decide,
    show ((34 : UInt8).toNat == 34) = true by decide, Bool.false_eq_true, if_false, if_true, sanKV]
  cases skipWs T <;> rfl

theorem members_entries : ∀ (l : List KV) (fuel : Nat) (acc : List KV), l ≠ [] → l.length ≤ fuel →
    members fuel (joinComma (l.map encEntry) ++ [125]) acc = .ok (acc ++ l.map sanKV)
  | [], _, _, h, _ => absurd rfl h
  | [kv], fuel, acc, _, hf => by
    obtain ⟨f, rfl⟩ : ∃ f, fuel = f + 1 := ⟨fuel - 1, by simp at hf; omega⟩
    simp only [List.map_cons, List.map_nil, joinComma]
    rw [members_step, skipWs_nonspace 125 _ (by decide)]
    simp
  | kv :: kv2 :: l, fuel, acc, _, hf => by
    obtain ⟨f, rfl⟩ : ∃ f, fuel = f + 1 := ⟨fuel - 1, by simp at hf; omega⟩
    simp only [List.map_cons, joinComma, List.append_assoc, List.cons_append]
    rw [members_step, skipWs_nonspace 44 _ (by decide)]
    simp only [show ((44 : UInt8).toNat == 44) = true by decide, if_true]
    have := members_entries (kv2 :: l) f (acc ++ [sanKV kv]) (by simp) (by simp at hf ⊢; omega)
    simp only [List.map_cons, List.append_assoc] at this
    rw [this]
    simp

theorem joinComma_len {α : Type} (enc : α → Bytes) (l : List α) : l.length ≤ (joinComma (l.map enc)).length + 1 := by
  induction l with
  | nil => simp
  | cons x l ih =>
    cases l with
    | nil => simp [joinComma]
    | cons y l =>
      simp only [List.map_cons, joinComma, List.length_append, List.length_cons] at ih ⊢
      omega

theorem joinComma_head (c : UInt8) (r : Bytes) (l : List Bytes) : ∃ t, joinComma ((c :: r) :: l) = c :: t := by
  cases l <;> exact ⟨_, rfl⟩

/-- `Load` of a file that `Dump` wrote in full: the entries, sorted by key, invalid bytes replaced by U+FFFD -/
theorem load_encodeMap (m : List KV) : load (encodeMap m) = .ok ((m.mergeSort kvLE).map sanKV) := by
  unfold load
  rw [(doc_encodeMap m).valid]
  unfold encodeMap
  rw [skipWs_nonspace 123 _ (by decide)]
  simp only [show ((123 : UInt8).toNat == 123) = true by decide, if_true]
  generalize m.mergeSort kvLE = l
  cases l with
  | nil =>
    simp only [List.map_nil, joinComma, List.nil_append]
    rw [skipWs_nonspace 125 _ (by decide)]
    simp
  | cons kv l =>
    obtain ⟨t, ht⟩ : ∃ t, joinComma ((kv :: l).map encEntry) = 34 :: t := joinComma_head 34 _ _
    rw [ht, List.cons_append, skipWs_nonspace 34 _ (by decide)]
    simp only [show ((34 : UInt8).toNat == 125) = false by decide, Bool.false_eq_true, if_false]
    rw [← List.cons_append, ← ht]
    have := members_entries (kv :: l) ((123 :: (joinComma ((kv :: l).map encEntry) ++ [125])).length + 1) [] (by simp)
      (by have := joinComma_len encEntry (kv :: l); simp only [List.length_cons, List.length_append] at this ⊢; omega)
    simpa using this

end Spok.Json
