import Spok.Syntax.Render
import Spok.Lemmas.CharClass
/-! # What the scanner primitives and scanning loops do, stated once

`l.ReadsTo xs l'`: the state `l'` is `l` advanced over the runes `xs` that lay ahead of it.  Every forward
movement of the scanner is of this form (`next` over one rune; `peek`, `atEOL` over none; each scanning loop
over the piece of input a list function cuts off), and every invariant of the scanner is preserved along
`ReadsTo`, so each loop needs one induction (here) and each invariant one lemma (`X.readsTo`).

`backup` un-counts a line only `if width == 1`, so `line` is followed only where newlines are one byte
wide (`NL1`), which decoding guarantees; all other fields are followed unconditionally. -/
namespace Spok

/-! ## byte lengths and newline counts of rune lists -/

def bytesLen : List Rune → Nat
  | [] => 0
  | r :: rs => r.w + bytesLen rs

def nl : List Rune → Nat
  | [] => 0
  | r :: rs => (if r.cp == NL then 1 else 0) + nl rs

@[simp] theorem bytesLen_nil : bytesLen [] = 0 := rfl
@[simp] theorem bytesLen_cons (r : Rune) (rs : List Rune) : bytesLen (r :: rs) = r.w + bytesLen rs := rfl
@[simp] theorem bytesLen_append (xs ys : List Rune) : bytesLen (xs ++ ys) = bytesLen xs + bytesLen ys := by
  induction xs with
  | nil => simp
  | cons x xs ih => simp [ih]; omega
@[simp] theorem bytesLen_reverse (xs : List Rune) : bytesLen xs.reverse = bytesLen xs := by
  induction xs with
  | nil => simp
  | cons x xs ih => simp [ih]; omega

@[simp] theorem nl_nil : nl [] = 0 := rfl
@[simp] theorem nl_cons (r : Rune) (rs : List Rune) : nl (r :: rs) = (if r.cp == NL then 1 else 0) + nl rs := rfl
@[simp] theorem nl_append (xs ys : List Rune) : nl (xs ++ ys) = nl xs + nl ys := by
  induction xs with
  | nil => simp
  | cons x xs ih => simp [ih]; omega
@[simp] theorem nl_reverse (xs : List Rune) : nl xs.reverse = nl xs := by
  induction xs with
  | nil => simp
  | cons x xs ih => simp [ih]; omega

theorem nl_eq_zero {xs : List Rune} (h : ∀ r ∈ xs, r.cp ≠ NL) : nl xs = 0 := by
  induction xs with
  | nil => rfl
  | cons x xs ih =>
    have := h x (by simp)
    simp [this, ih (fun r hr => h r (by simp [hr]))]

/-! ## the primitives, field by field -/

def L.setW (l : L) (w : Nat) : L := { l with width := w }

@[simp] theorem L.setW_left (l : L) (w : Nat) : (l.setW w).left = l.left := rfl
@[simp] theorem L.setW_right (l : L) (w : Nat) : (l.setW w).right = l.right := rfl
@[simp] theorem L.setW_tokRev (l : L) (w : Nat) : (l.setW w).tokRev = l.tokRev := rfl
@[simp] theorem L.setW_pos (l : L) (w : Nat) : (l.setW w).pos = l.pos := rfl
@[simp] theorem L.setW_start (l : L) (w : Nat) : (l.setW w).start = l.start := rfl
@[simp] theorem L.setW_line (l : L) (w : Nat) : (l.setW w).line = l.line := rfl
@[simp] theorem L.setW_startLine (l : L) (w : Nat) : (l.setW w).startLine = l.startLine := rfl
@[simp] theorem L.setW_toks (l : L) (w : Nat) : (l.setW w).toks = l.toks := rfl
@[simp] theorem L.emit_tokRev (l : L) (t : TT) : (l.emit t).tokRev = [] := rfl
@[simp] theorem L.discard_tokRev (l : L) : l.discard.tokRev = [] := rfl
@[simp] theorem L.error_toks (l : L) :
    (l.error).1.toks = l.toks.push ⟨.error, [], l.start, l.startLine, l.line⟩ := rfl
@[simp] theorem L.error_tag (l : L) : (l.error).2 = .done := rfl
@[simp] theorem L.error_right (l : L) : (l.error).1.right = l.right := rfl

namespace L
variable (l : L)

theorem next_nil {l : L} (h : l.right = []) : l.next = (l.setW 0, eofRune) := by simp [L.next, h, L.setW]

theorem next_cons {l : L} {r : Rune} {rs : List Rune} (h : l.right = r :: rs) :
    l.next = ({ l with left := r :: l.left, right := rs, tokRev := r :: l.tokRev, pos := l.pos + r.w, width := r.w,
                       line := if r.cp == NL then l.line + 1 else l.line }, r) := by simp [L.next, h]

@[simp] theorem next_snd : (l.next).2 = l.right.headD eofRune := by unfold L.next; cases l.right <;> rfl
@[simp] theorem next_right : (l.next).1.right = l.right.tail := by unfold L.next; cases l.right <;> rfl
@[simp] theorem next_toks : (l.next).1.toks = l.toks := by unfold L.next; cases l.right <;> rfl
@[simp] theorem next_start : (l.next).1.start = l.start := by unfold L.next; cases l.right <;> rfl
@[simp] theorem next_startLine : (l.next).1.startLine = l.startLine := by unfold L.next; cases l.right <;> rfl

@[simp] theorem peek_snd : (l.peek).2 = l.right.headD eofRune := next_snd l
@[simp] theorem atEOL_fst : (l.atEOL).1 = (l.peek).1 := rfl
@[simp] theorem next_backup : (l.next).1.backup = (l.peek).1 := rfl

@[simp] theorem absorb_left (n : Nat) : (l.absorb n).left = (l.right.take n).reverse ++ l.left := rfl
@[simp] theorem absorb_right (n : Nat) : (l.absorb n).right = l.right.drop n := rfl
@[simp] theorem absorb_tokRev (n : Nat) : (l.absorb n).tokRev = (l.right.take n).reverse ++ l.tokRev := rfl
@[simp] theorem absorb_toks (n : Nat) : (l.absorb n).toks = l.toks := rfl
@[simp] theorem emit_left (t : TT) : (l.emit t).left = l.left := rfl
@[simp] theorem emit_right (t : TT) : (l.emit t).right = l.right := rfl
@[simp] theorem emit_toks (t : TT) : (l.emit t).toks = l.toks.push ⟨t, l.tokRev.reverse, l.start, l.startLine, 0⟩ := rfl
@[simp] theorem discard_left : l.discard.left = l.left := rfl
@[simp] theorem discard_right : l.discard.right = l.right := rfl
@[simp] theorem discard_toks : l.discard.toks = l.toks := rfl
@[simp] theorem atEOF_iff : l.atEOF = true ↔ l.right = [] := by simp [L.atEOF]

theorem hasPrefix_congr {l l' : L} (h : l'.right = l.right) (s : List Nat) : l'.hasPrefix s = l.hasPrefix s := by
  simp [L.hasPrefix, h]
theorem atEOF_congr {l l' : L} (h : l'.right = l.right) : l'.atEOF = l.atEOF := by simp [L.atEOF, h]

end L

theorem L.cp_mem_of_hasPrefix {l : L} {s : List Nat} (hp : l.hasPrefix s = true) :
    (l.right.take s.length).length = s.length ∧ ∀ r ∈ l.right.take s.length, r.cp ∈ s := by
  have hm : (l.right.take s.length).map (·.cp) = s := by simpa [L.hasPrefix] using hp
  exact ⟨by simpa using congrArg List.length hm, fun r hr => hm ▸ List.mem_map_of_mem hr⟩

/-! ## reading -/

def NL1 (rs : List Rune) : Prop := ∀ r ∈ rs, r.cp = NL → r.w = 1

/-- `l'` is `l` after reading the runes `xs` ahead of it; `width` is not followed -/
structure L.ReadsTo (l : L) (xs : List Rune) (l' : L) : Prop where
  left : l'.left = xs.reverse ++ l.left
  right : l.right = xs ++ l'.right
  tokRev : l'.tokRev = xs.reverse ++ l.tokRev
  toks : l'.toks = l.toks
  pos : l'.pos = l.pos + bytesLen xs
  start : l'.start = l.start
  startLine : l'.startLine = l.startLine
  line : NL1 l.right → l'.line = l.line + nl xs

namespace L.ReadsTo
variable {l m n : L} {xs ys : List Rune}

theorem refl (l : L) : l.ReadsTo [] l := ⟨rfl, rfl, rfl, rfl, rfl, rfl, rfl, fun _ => rfl⟩

theorem trans (h1 : l.ReadsTo xs m) (h2 : m.ReadsTo ys n) : l.ReadsTo (xs ++ ys) n where
  left := by rw [h2.left, h1.left]; simp
  right := by rw [h1.right, h2.right]; simp
  tokRev := by rw [h2.tokRev, h1.tokRev]; simp
  toks := h2.toks.trans h1.toks
  pos := by rw [h2.pos, h1.pos]; simp; omega
  start := h2.start.trans h1.start
  startLine := h2.startLine.trans h1.startLine
  line := fun h => by
    rw [h2.line (fun r hr => h r (by rw [h1.right]; simp [hr])), h1.line h]; simp; omega

theorem next {r : Rune} {rs : List Rune} (h : l.right = r :: rs) : l.ReadsTo [r] (l.next).1 := by
  rw [L.next_cons h]
  exact ⟨rfl, h, rfl, rfl, by simp, rfl, rfl, fun _ => by simp only [nl_cons, nl_nil]; split <;> omega⟩

theorem setW (h : l.ReadsTo xs m) (w : Nat) : l.ReadsTo xs (m.setW w) := ⟨h.1, h.2, h.3, h.4, h.5, h.6, h.7, h.8⟩

/-- at the end of the input `next` reads nothing -/
theorem next_any (l : L) : l.ReadsTo (l.right.take 1) (l.next).1 := by
  cases h : l.right with
  | nil => rw [L.next_nil h]; exact (refl l).setW 0
  | cons r rs => exact next h

/-- `peek` = `next` then `backup` with the width `next` has just set -/
theorem peek (l : L) : l.ReadsTo [] (l.peek).1 := by
  show l.ReadsTo [] (l.next).1.backup
  cases h : l.right with
  | nil => rw [L.next_nil h]; exact ⟨rfl, by simp [L.backup, L.setW, h], rfl, rfl, rfl, rfl, rfl, fun _ => rfl⟩
  | cons r rs =>
    rw [L.next_cons h]
    refine ⟨?_, ?_, ?_, ?_, ?_, ?_, ?_, fun h1 => ?_⟩ <;> simp [L.backup, Rune.w_ne_zero, h]
    by_cases hc : r.cp = NL
    · simp [hc, h1 r (by simp [h]) hc]
    · simp [hc]

theorem right_length (h : l.ReadsTo xs m) : m.right.length + xs.length = l.right.length := by
  rw [h.right]; simp; omega

end L.ReadsTo

namespace L
variable (l : L)

@[simp] theorem peek_left : (l.peek).1.left = l.left := (ReadsTo.peek l).left
@[simp] theorem peek_tokRev : (l.peek).1.tokRev = l.tokRev := (ReadsTo.peek l).tokRev
@[simp] theorem peek_toks : (l.peek).1.toks = l.toks := (ReadsTo.peek l).toks
@[simp] theorem peek_pos : (l.peek).1.pos = l.pos := (ReadsTo.peek l).pos
@[simp] theorem peek_start : (l.peek).1.start = l.start := (ReadsTo.peek l).start
@[simp] theorem peek_startLine : (l.peek).1.startLine = l.startLine := (ReadsTo.peek l).startLine
@[simp] theorem backup_toks : l.backup.toks = l.toks := by
  unfold L.backup; repeat' split
  all_goals rfl

theorem next_tokRev_cons {l : L} {r : Rune} {rs : List Rune} (h : l.right = r :: rs) :
    (l.next).1.tokRev = r :: l.tokRev := (ReadsTo.next h).tokRev

end L

/-! ## the scanning loops -/

theorem of_mem_takeWhile {α} {p : α → Bool} {xs : List α} {a : α} (h : a ∈ xs.takeWhile p) : p a = true :=
  List.all_eq_true.mp List.all_takeWhile a h

theorem takeWhile_dropWhile_cancel {α} {p : α → Bool} {xs rest : List α} (h : xs = xs.takeWhile p ++ rest) :
    rest = xs.dropWhile p :=
  List.append_cancel_left (h.symm.trans (List.takeWhile_append_dropWhile (p := p) (l := xs)).symm)

/-- the loop of `lexIdent` / `lexTaskName` reads the identifier runes ahead -/
theorem scanIdent_reads (l : L) : l.ReadsTo (l.right.takeWhile isIdent) (scanIdent l) := by
  fun_induction scanIdent l with
  | case1 l hr => rw [hr]; exact .peek l
  | case2 l r rs hr hi ih => simpa [hr, hi] using (L.ReadsTo.next hr).trans ih
  | case3 l r rs hr hi => simpa [hr, hi, L.next_backup] using L.ReadsTo.peek l

/-- `skipWhitespace` reads the white space ahead and discards it -/
theorem skipWs_reads (l : L) : ∃ m, l.ReadsTo (l.right.takeWhile isSpace) m ∧ skipWs l = m.discard := by
  fun_induction skipWs l with
  | case1 l hr => rw [hr]; exact ⟨_, .peek l, rfl⟩
  | case2 l r rs hr hi ih =>
    obtain ⟨m, h1, h2⟩ := ih
    exact ⟨m, by simpa [hr, hi] using (L.ReadsTo.next hr).trans h1, h2⟩
  | case3 l r rs hr hi => exact ⟨_, by simpa [hr, hi, L.next_backup] using L.ReadsTo.peek l, rfl⟩

/-- the blank-skipping loop of `lexDeclString` -/
theorem skipBlanks_reads (l : L) : l.ReadsTo (l.right.takeWhile isBlank) (skipBlanks l) := by
  fun_induction skipBlanks l with
  | case1 l hr => rw [hr]; exact .peek l
  | case2 l r rs hr hi ih =>
    have hp : (l.peek).1.right = r :: rs := by rw [L.peek_right, hr]
    simpa [hr, hp, isBlank, hi] using ((L.ReadsTo.peek l).trans (.next hp)).trans ih
  | case3 l r rs hr hi => simpa [hr, isBlank, hi] using L.ReadsTo.peek l

@[simp] theorem L.atEOL_snd (l : L) : (l.atEOL).2 = startsEol l.right := by
  show ((l.peek).2.cp == NL || (l.peek).1.hasPrefix [CR, NL]) = _
  rw [L.hasPrefix, L.peek_right, L.peek_snd]
  rcases l.right with _ | ⟨r, _ | ⟨r2, rs⟩⟩ <;> simp [startsEol, eofRune]

/-- the runes before the first line end (`\n` or `\r\n`) -/
def untilEol : List Rune → List Rune
  | [] => []
  | r :: rs => if startsEol (r :: rs) then [] else r :: untilEol rs

theorem untilEol_noNL : ∀ (xs : List Rune), ∀ x ∈ untilEol xs, x.cp ≠ NL
  | [], _, h => nomatch h
  | r :: rs, x, h => by
    rw [untilEol] at h
    split at h
    · cases h
    · rename_i he
      rcases List.mem_cons.mp h with rfl | h
      · intro hc; simp [startsEol, hc] at he
      · exact untilEol_noNL rs x h

theorem untilEol_stop : ∀ {xs rest : List Rune}, xs = untilEol xs ++ rest → rest = [] ∨ startsEol rest = true
  | [], rest, h => Or.inl (by simpa [untilEol] using h.symm)
  | r :: rs, rest, h => by
    rw [untilEol] at h
    split at h
    · rename_i he; exact Or.inr (by rw [← (by simpa using h : r :: rs = rest)]; exact he)
    · exact untilEol_stop (List.cons.inj h).2

theorem untilEol_append : ∀ {c tail : List Rune}, (∀ pre suf, c = pre ++ suf → suf ≠ [] → startsEol (suf ++ tail) = false) →
    (tail = [] ∨ startsEol tail = true) → untilEol (c ++ tail) = c
  | [], tail, _, ht => by
    cases tail with
    | nil => rfl
    | cons t ts => simp [untilEol, ht.resolve_left (by simp)]
  | a :: c, tail, hc, ht => by
    have := hc [] (a :: c) rfl (by simp)
    rw [List.cons_append] at this ⊢
    rw [untilEol, this, untilEol_append (fun pre suf e => hc (a :: pre) suf (by simp [e])) ht]
    rfl

/-- the loop of `lexComment` reads up to the end of the line -/
theorem scanComment_reads (l : L) : l.ReadsTo (untilEol l.right) (scanComment l) := by
  fun_induction scanComment l with
  | case1 l hr => rw [hr]; exact .peek l
  | case2 l r rs hr hi =>
    rw [L.atEOL_snd, hr] at hi
    simpa [hr, untilEol, hi] using L.ReadsTo.peek l
  | case3 l r rs hr hi ih =>
    have hp : (l.peek).1.right = r :: rs := by rw [L.peek_right, hr]
    rw [L.atEOL_snd, hr] at hi
    simpa [hr, hp, untilEol, hi] using ((L.ReadsTo.peek l).trans (.next hp)).trans ih

/-- what the loop of `lexString` takes from the text behind the opening quote: the body with the closing
    quote, and what follows; `none` if the string is not closed on its line (`atEOL` is asked about what
    *follows* each rune, so a newline directly behind the opening quote is taken) -/
def strSpan : List Rune → Option (List Rune × List Rune)
  | [] => none
  | r :: rs =>
    if r.cp == QUOTE then some ([r], rs)
    else if rs.isEmpty || startsEol rs then none
    else (strSpan rs).map fun p => (r :: p.1, p.2)

theorem strSpan_ok : ∀ {xs s' rest : List Rune}, strSpan xs = some (s', rest) →
    xs = s' ++ rest ∧ ∃ s q, s' = s ++ [q] ∧ q.cp = QUOTE ∧ StrOK s
  | [], _, _, h => nomatch h
  | r :: rs, s', rest, h => by
    rw [strSpan] at h
    split at h
    · rename_i hq; cases h; exact ⟨rfl, [], r, rfl, by simpa using hq, by simp [StrOK]⟩
    · rename_i hq
      split at h
      · cases h
      · rename_i he
        cases hs : strSpan rs with
        | none => simp [hs] at h
        | some p =>
          obtain ⟨e0, s, q, e1, e2, e3⟩ := strSpan_ok (xs := rs) (s' := p.1) (rest := p.2) hs
          simp only [hs, Option.map_some, Option.some.injEq, Prod.mk.injEq] at h
          obtain ⟨rfl, rfl⟩ := h
          refine ⟨by rw [e0]; rfl, r :: s, q, by rw [e1]; rfl, e2, ?_, ?_⟩
          · intro x hx
            rcases List.mem_cons.mp hx with rfl | hx
            · simpa using hq
            · exact e3.1 x hx
          · -- `atEOL` has looked at the head of `rs = s ++ q :: _`
            cases s with
            | nil => simp
            | cons a t =>
              intro x hx
              rcases List.mem_cons.mp hx with rfl | hx
              · intro hc; simp [e0, e1, startsEol, hc] at he
              · exact e3.2 x hx

theorem strSpan_ne_nil {xs s rest : List Rune} (h : strSpan xs = some (s, rest)) : s ≠ [] := by
  obtain ⟨_, s, q, rfl, _⟩ := strSpan_ok h; simp

theorem startsEol_append_quote {s : List Rune} (hs : ∀ r ∈ s, r.cp ≠ NL) {q : Rune} (hq : q.cp = QUOTE) (rest : List Rune) :
    startsEol (s ++ q :: rest) = false := by
  rcases s with _ | ⟨a, _ | ⟨b, s⟩⟩ <;> simp_all [startsEol]

theorem strSpan_append : ∀ {s : List Rune} {q : Rune} (rest : List Rune), StrOK s → q.cp = QUOTE →
    strSpan (s ++ q :: rest) = some (s ++ [q], rest)
  | [], q, rest, _, hq => by simp [strSpan, hq]
  | a :: s, q, rest, hs, hq => by
    have ha : a.cp ≠ QUOTE := hs.1 a (by simp)
    have hnl : ∀ r ∈ s, r.cp ≠ NL := fun r h => hs.2 r (by simpa using h)
    rw [List.cons_append, strSpan, strSpan_append rest ⟨fun r h => hs.1 r (by simp [h]), fun r h => hnl r (List.mem_of_mem_tail h)⟩ hq]
    simp [ha, startsEol_append_quote hnl hq]

theorem scanString_reads (l : L) :
    (∀ l', scanString l = .ok l' → ∃ s, strSpan l.right = some (s, l'.right) ∧ l.ReadsTo s l') ∧
    (∀ l', scanString l = .error l' → strSpan l.right = none ∧ ∃ xs m, l.ReadsTo xs m ∧ l' = m.backup) := by
  fun_induction scanString l with
  | case1 l hr => rw [hr, L.next_nil hr]; exact ⟨nofun, fun l' e => ⟨rfl, [], _, (L.ReadsTo.refl l).setW 0, by cases e; rfl⟩⟩
  | case2 l r rs hr l1 hq =>
    exact ⟨fun l' e => by cases e; exact ⟨[r], by simp [hr, strSpan, hq, l1], .next hr⟩, nofun⟩
  | case3 l r rs hr l1 hq he =>
    exact ⟨nofun, fun l' e => ⟨by simp [hr, strSpan, hq, he], _, _, .next hr, by cases e; rfl⟩⟩
  | case4 l r rs hr l1 hq he he2 =>
    have hr1 : l1.right = rs := by simp [l1, hr]
    rw [L.atEOL_snd, hr1] at he2
    exact ⟨nofun, fun l' e => ⟨by simp [hr, strSpan, hq, he2], _, _, (L.ReadsTo.next hr).trans (.peek _), by cases e; rfl⟩⟩
  | case5 l r rs hr l1 hq he he2 ih =>
    have hr1 : l1.right = rs := by simp [l1, hr]
    have hp := (L.ReadsTo.next hr).trans (.peek l1)
    rw [L.atEOL_snd, hr1] at he2
    rw [L.atEOL_fst, L.peek_right, hr1] at ih
    rw [show strSpan l.right = (strSpan rs).map fun p => (r :: p.1, p.2) by simp [hr, strSpan, hq, he, he2]]
    refine ⟨fun l' e => ?_, fun l' e => ?_⟩
    · obtain ⟨s, e1, e2⟩ := ih.1 l' e
      exact ⟨r :: s, by simp [e1], by simpa using hp.trans e2⟩
    · obtain ⟨e1, xs, m, e2, e3⟩ := ih.2 l' e
      exact ⟨by simp [e1], _, m, hp.trans e2, e3⟩

theorem scanString_of_span {l : L} {s rest : List Rune} (h : strSpan l.right = some (s, rest)) :
    ∃ l', scanString l = .ok l' ∧ l.ReadsTo s l' ∧ l'.right = rest := by
  cases hs : scanString l with
  | error l' => rw [((scanString_reads l).2 l' hs).1] at h; cases h
  | ok l' =>
    obtain ⟨s', e, r⟩ := (scanString_reads l).1 l' hs
    rw [h] at e; cases e
    exact ⟨l', rfl, r, rfl⟩

/-! ## stepping back -/

theorem L.stepBack_of_lastIs {l : L} {c : Nat} (h : l.lastIs c = true) :
    ∃ x ls t ts, x.cp = c ∧ l.left = x :: ls ∧ l.tokRev = t :: ts ∧
      l.stepBack = { l with left := ls, right := x :: l.right, tokRev := ts, pos := l.pos - 1 } := by
  unfold L.lastIs at h
  split at h
  · rename_i t ts x ls h1 h2
    exact ⟨x, ls, t, ts, by simpa using h, h2, h1, by simp [L.stepBack, h1, h2]⟩
  · cases h

theorem stripCR_rule {P : L → Prop} {l : L} (h0 : P l) (hs : ∀ m, m.lastIs CR = true → P m → P m.stepBack) :
    P (stripCR l) ∧ (stripCR l).lastIs CR = false := by
  fun_induction stripCR l with
  | case1 l hc ih => exact ih (hs l hc h0)
  | case2 l hc => exact ⟨h0, by simpa using hc⟩

/-! ## the token under construction is the text just before the cursor

`lastIs`, `stepBack` and `stripCR` look at `left`; where this holds they are determined by `tokRev`. -/

def TokLeft (l : L) : Prop := ∃ before, l.left = l.tokRev ++ before

theorem TokLeft.of_nil {l : L} (h : l.tokRev = []) : TokLeft l := ⟨l.left, by simp [h]⟩

theorem TokLeft.readsTo {l m : L} {xs : List Rune} (h : TokLeft l) (r : l.ReadsTo xs m) : TokLeft m := by
  obtain ⟨before, h⟩ := h
  exact ⟨before, by rw [r.left, r.tokRev, h, List.append_assoc]⟩

theorem TokLeft.absorb {l : L} (h : TokLeft l) (n : Nat) : TokLeft (l.absorb n) := by
  obtain ⟨before, h⟩ := h
  exact ⟨before, by simp [h]⟩

theorem TokLeft.lastIs {l : L} (h : TokLeft l) (c : Nat) :
    l.lastIs c = match l.tokRev with | x :: _ => x.cp == c | [] => false := by
  obtain ⟨before, h⟩ := h
  unfold L.lastIs
  cases ht : l.tokRev with
  | nil => rfl
  | cons x ts => simp [h, ht]

theorem TokLeft.stepBack {l : L} (h : TokLeft l) {x : Rune} {ts : List Rune} (ht : l.tokRev = x :: ts) :
    l.stepBack.tokRev = ts ∧ l.stepBack.right = x :: l.right ∧ l.stepBack.toks = l.toks ∧ TokLeft l.stepBack ∧
      l.stepBack.left.reverse ++ l.stepBack.right = l.left.reverse ++ l.right := by
  obtain ⟨before, h⟩ := h
  have hl : l.left = x :: (ts ++ before) := by simp [h, ht]
  simp [L.stepBack, ht, hl, TokLeft]

/-- `stripCR` puts exactly the carriage returns at the end of the token back onto the input -/
theorem TokLeft.stripCR_eq {l : L} (h : TokLeft l) :
    (stripCR l).tokRev = l.tokRev.dropWhile (·.cp == CR) ∧
      (stripCR l).right = (l.tokRev.takeWhile (·.cp == CR)).reverse ++ l.right ∧ (stripCR l).toks = l.toks ∧
      TokLeft (stripCR l) ∧ (stripCR l).left.reverse ++ (stripCR l).right = l.left.reverse ++ l.right := by
  fun_induction stripCR l with
  | case1 l hc ih =>
    rw [h.lastIs] at hc
    cases ht : l.tokRev with
    | nil => simp [ht] at hc
    | cons x ts =>
      obtain ⟨h1, h2, h3, h4, h5⟩ := h.stepBack ht
      obtain ⟨i1, i2, i3, i4, i5⟩ := ih h4
      rw [ht] at hc
      exact ⟨by simp [i1, h1, hc], by simp [i2, h1, h2, hc], i3.trans h3, i4, i5.trans h5⟩
  | case2 l hc =>
    rw [h.lastIs] at hc
    cases ht : l.tokRev with
    | nil => simp [h]
    | cons x ts => rw [ht] at hc; simp [h, show (x.cp == CR) = false by simpa using hc]

end Spok
