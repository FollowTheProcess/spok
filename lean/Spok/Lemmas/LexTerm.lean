import Spok.Lemmas.LexStepCmd
/-! # Termination of the lexer: every state function makes progress

`rank` orders the states so that a hand-over which consumes no input goes strictly down (a finite check on
the state graph: the `by decide`s of `stepTag_out`).  The chains `lexComment → lexStart → lexHash` and
`lexIdent → lexStart → lexTaskKeyword`, none of whose edges need consume anything, force three levels above the
final states.  A step that consumes a rune may go up, by at most 2 (from 1 to 3), so a rune is given the weight 3 in
`Dec`: the measure `3·|right| + rank` falls at every step.  It starts at `3·|input| + 2` (`rank .start`), and
`runF` ends in `.done` on any budget of at least that (`runF_done`); the `3·|input| + 4` of `lexRunes` is two more
than is needed.  `stepTag_out` collects the step specifications of all state functions in the form this argument —
and the state graph — needs; `runF_inv` carries any invariant of `stepTag` through the `run` loop to the state
where it stops. -/
namespace Spok

def rank : Tag → Nat
  | .done | .spin => 0
  | .hash | .taskKeyword | .leftParen | .rightParen | .comma | .leftBrace | .rightBrace | .declare
  | .outputOp | .string | .declString => 1
  | .start | .args | .taskBody | .taskCommands | .taskName => 2
  | .ident | .comment => 3

/-- progress of one step from `(l, t)` to `p`: never `.spin`, and either finished or strictly smaller -/
def Dec (l : L) (t : Tag) (p : L × Tag) : Prop :=
  p.2 ≠ .spin ∧ (p.2 = .done ∨ 3 * p.1.right.length + rank p.2 < 3 * l.right.length + rank t)

/-- the prefix action has consumed input, or every hand-over that consumes none goes down in `rank` -/
def Progress (t : Tag) (l l1 : L) : Prop :=
  l1.right.length < l.right.length ∨
    (l1.right.length ≤ l.right.length ∧ ∀ t' ∈ nextTags t, t'.final = false → t'.cont = false → rank t' < rank t)

theorem rank_pos {t : Tag} (h : t.final = false) : 1 ≤ rank t := by
  cases t <;> first | (simp [rank]; done) | cases h

theorem HandOver.dec {t : Tag} {l l1 : L} {p : L × Tag} (h : HandOver t l1 p) (hf : t.final = false)
    (hp : Progress t l l1) : Dec l t p := by
  have hr3 : ∀ t' : Tag, rank t' ≤ 3 := fun t' => by cases t' <;> decide
  have := rank_pos hf
  cases h with
  | @stay l' t' hl he =>
    obtain ⟨hm, hf', hc⟩ := he
    refine ⟨(by rintro rfl; cases hf'), Or.inr ?_⟩
    have := hr3 t'
    have : l'.right.length = l1.right.length := hl.right_length
    show 3 * l'.right.length + rank t' < _
    rcases hp with hp | ⟨hp, hr⟩
    · omega
    · have := hr t' hm hf' hc; omega
  | @take l' t' r hl _ _ hk =>
    refine ⟨(by rintro rfl; exact hk.elim), Or.inr ?_⟩
    have := hr3 t'
    have : l'.right.length + 1 = l1.right.length := hl.right_length
    show 3 * l'.right.length + rank t' < _
    rcases hp with hp | ⟨hp, _⟩ <;> omega
  | error | eof => exact ⟨(by simp), Or.inl rfl⟩

theorem absorb_right_lt {l : L} (h : l.right ≠ []) {n : Nat} (hn : 0 < n) (ty : TT) :
    (skipWs ((l.absorb n).emit ty)).right.length < l.right.length ∧ ((l.absorb n).emit ty).right.length < l.right.length := by
  have := skipWs_right_le ((l.absorb n).emit ty)
  have : (l.right.drop n).length < l.right.length := by
    cases hr : l.right with | nil => exact absurd hr h | cons => simp; omega
  simp only [L.emit_right, L.absorb_right] at *
  omega

/-- **one step, whatever the state**: the scan ends, or the state function hands over from a mid state
    that its prefix action has reached with `Progress` -/
theorem stepTag_out (l : L) (t : Tag) (hf : t.final = false) :
    (stepTag l t).2 = .done ∨ ∃ l1, HandOver t l1 (stepTag l t) ∧ Progress t l l1 := by
  -- the state functions that absorb a spelled token: nothing to absorb, or input is consumed
  have spelled : ∀ {t : Tag} {p q : L × Tag} {l1 : L}, (if l.atEOF then (l, Tag.done) else q) = p →
      (l.right ≠ [] → HandOver t l1 p ∧ l1.right.length < l.right.length) →
      p.2 = .done ∨ ∃ l1, HandOver t l1 p ∧ Progress t l l1 := by
    intro t p q l1 e ho
    by_cases h : l.right = []
    · exact Or.inl (by rw [← e]; simp [h])
    · exact Or.inr ⟨l1, (ho h).1, Or.inl (ho h).2⟩
  have skipped := skipWs_right_le ((scanIdent l).emit .ident)
  have scanned : (skipWs ((scanIdent l).emit .ident)).right.length ≤ l.right.length := by
    have := scanIdent_right_le l; simp only [L.emit_right] at skipped; omega
  cases t <;> simp only [stepTag]
  case start => exact Or.inr ⟨_, lexStart_out.1, Or.inr ⟨skipWs_right_le l, by decide⟩⟩
  case hash => exact spelled rfl fun h => ⟨lexHash_out h, (absorb_right_lt h (by decide) _).2⟩
  case comment => exact Or.inr ⟨_, lexComment_out, Or.inr ⟨scanComment_right_le l, by decide⟩⟩
  case taskKeyword => exact spelled rfl fun h => ⟨lexTaskKeyword_out h, (absorb_right_lt h (by decide) _).1⟩
  case leftParen => exact spelled rfl fun h => ⟨lexLeftParen_out h, (absorb_right_lt h (by decide) _).1⟩
  case rightParen => exact spelled rfl fun h => ⟨lexRightParen_out h, (absorb_right_lt h (by decide) _).1⟩
  case outputOp => exact spelled rfl fun h => ⟨lexOutputOp_out h, (absorb_right_lt h (by decide) _).1⟩
  case leftBrace => exact spelled rfl fun h => ⟨lexLeftBrace_out h, (absorb_right_lt h (by decide) _).1⟩
  case rightBrace => exact spelled rfl fun h => ⟨lexRightBrace_out h, (absorb_right_lt h (by decide) _).2⟩
  case taskBody =>
    obtain ⟨l1, h1, ho⟩ := lexTaskBody_out (l := l)
    refine Or.inr ⟨l1, ho, Or.inr ⟨?_, by decide⟩⟩
    rcases h1 with rfl | rfl
    · exact Nat.le_refl _
    · exact skipWs_right_le l
  case taskCommands =>
    obtain ⟨l1, hle, ho⟩ := lexTaskCommands_out (P := fun m => m.right.length ≤ l.right.length) (l := l)
      (fun m r rs hp hr hc => by have := endLine_right_le hr hc; rw [hr] at hp; simp at hp; omega)
      (fun m r rs s hp _ _ _ _ => by simp only [L.absorb_right, L.next_right, List.length_drop, List.length_tail]; omega)
      (fun m r rs hp _ _ => by simp only [L.next_right, List.length_tail]; omega)
      (fun m r rs hp hr hc => by rw [closeCmd_right hr hc, ← hr]; exact hp)
      (Nat.le_refl _)
    exact Or.inr ⟨l1, ho, Or.inr ⟨hle, by decide⟩⟩
  case taskName => exact Or.inr ⟨_, lexTaskName_out, Or.inr ⟨scanned, by decide⟩⟩
  case ident => exact Or.inr ⟨_, lexIdent_out.1, Or.inr ⟨scanned, by decide⟩⟩
  case args => exact Or.inr ⟨_, lexArgs_out, Or.inr ⟨skipWs_right_le l, by decide⟩⟩
  case comma => exact spelled rfl fun h => ⟨lexComma_out h, (absorb_right_lt h (by decide) _).1⟩
  case declare =>
    by_cases h : (skipWs l).right = []
    · exact Or.inl (by simp [lexDeclare, h])
    · have := skipWs_right_le l
      have := (absorb_right_lt h (n := 2) (by decide) .declare).1
      exact Or.inr ⟨_, lexDeclare_out h, Or.inl (by omega)⟩
  case string =>
    rcases lexString_out (l := l) with ⟨l', _, e⟩ | ⟨l', hs, ho⟩
    · exact Or.inl (by rw [e]; rfl)
    · exact Or.inr ⟨_, ho, Or.inl (scanString_ok_right_lt l l' hs)⟩
  case declString =>
    rcases lexDeclString_out (l := l) with ⟨l', _, e⟩ | ⟨l', hs, ho⟩
    · exact Or.inl (by rw [e]; rfl)
    · obtain ⟨m, r, e⟩ := declTail_reads (l'.emit .string)
      have := scanString_ok_right_lt l l' hs
      have := r.right_length
      exact Or.inr ⟨_, ho, Or.inl (by rw [e]; simp only [L.discard_right, L.emit_right] at *; omega)⟩
  case done | spin => cases hf

theorem dec_stepTag (l : L) (t : Tag) (ht : t.final = false) : Dec l t (stepTag l t) := by
  rcases stepTag_out l t ht with h | ⟨l1, ho, hp⟩
  · exact ⟨by rw [h]; simp, Or.inl h⟩
  · exact ho.dec ht hp

theorem stepTag_next (l : L) (t : Tag) : (stepTag l t).2 ∈ nextTags t := by
  by_cases hf : t.final = false
  · rcases stepTag_out l t hf with h | ⟨l1, ho, -⟩
    · -- every state function but `lexComment` can end the scan
      rw [h]; cases t <;> first | decide | exact absurd h (by simp [stepTag, lexComment])
    · exact ho.tag_mem
  · cases t <;> first | exact absurd rfl hf | simp [stepTag, nextTags]

theorem Tag.eq_done {t : Tag} (hf : t.final = true) (hs : t ≠ .spin) : t = .done := by
  simpa [Tag.final, hs] using hf

theorem runF_final (f : Nat) (l : L) (t : Tag) (h : t.final = true) : runF f l t = (l, t) := by
  cases f <;> simp [runF, h]

theorem runF_done : ∀ (fuel : Nat) (l : L) (t : Tag), t ≠ .spin → 3 * l.right.length + rank t ≤ fuel →
    (runF fuel l t).2 = .done := by
  intro fuel
  induction fuel with
  | zero =>
    intro l t hs h
    cases hf : t.final
    · have := rank_pos hf; omega
    · rw [runF_final _ _ _ hf]; exact Tag.eq_done hf hs
  | succ fuel ih =>
    intro l t hs h
    cases hf : t.final
    · rw [runF, hf]
      show (runF fuel (stepTag l t).1 (stepTag l t).2).2 = .done
      have hd := dec_stepTag l t hf
      rcases hd.2 with h1 | h1
      · rw [h1, runF_final _ _ _ rfl]
      · exact ih _ _ hd.1 (by omega)
    · rw [runF_final _ _ _ hf]; exact Tag.eq_done hf hs

theorem runF_inv {I : L → Tag → Prop} (step : ∀ l t, I l t → I (stepTag l t).1 (stepTag l t).2) :
    ∀ (fuel : Nat) (l : L) (t : Tag), I l t → (runF fuel l t).2 = .done → I (runF fuel l t).1 .done := by
  intro fuel
  induction fuel with
  | zero =>
    intro l t h hd
    unfold runF at hd ⊢
    split at hd
    · subst hd; exact h
    · cases hd
  | succ fuel ih =>
    intro l t h hd
    unfold runF at hd ⊢
    split at hd
    · next hf => rw [if_pos hf]; subst hd; exact h
    · next hf => rw [if_neg hf]; exact ih _ _ (step l t h) hd

theorem lexRunes_done (rs : List Rune) : (runF (3 * rs.length + 4) (L.init rs) .start).2 = .done :=
  runF_done _ _ _ (by simp) (by simp [L.init, rank])

theorem lexRunes_inv {I : L → Tag → Prop} (step : ∀ l t, I l t → I (stepTag l t).1 (stepTag l t).2)
    (rs : List Rune) (h0 : I (L.init rs) .start) : ∃ l, I l .done ∧ (lexRunes rs).toks = l.toks.toList :=
  ⟨_, runF_inv step _ _ _ h0 (lexRunes_done rs), rfl⟩

/-- the lexer halts: the step budget of `lexRunes` is never exhausted and the command loop never spins -/
theorem lexRunes_halted (rs : List Rune) : (lexRunes rs).halted = true := by
  unfold lexRunes
  simp [lexRunes_done rs]

end Spok
