import Spok.Judge.Syntax
import Spok.Lemmas.LexPrim
import Spok.Lemmas.Utf8
/-! # Bytes against runes: lengths and newline counts

`bytesLen` of a rune list is the length of its bytes (`flat_length`) and `nl` the number of newline bytes among them
(`countNL_flat`, `nl_decodeAll`): on decoded text a byte `0x0A` is always a rune of its own (continuation bytes and
lead bytes are ≥ 0x80).  `countNL` is what `strings.Split(input, "\n")` sees. -/
namespace Spok
open Spok.Judge (countNL)

@[simp] theorem flat_length (xs : List Rune) : (flat xs).length = bytesLen xs := by
  induction xs with
  | nil => rfl
  | cons x xs ih => simp [ih, Rune.bytes_length]

@[simp] theorem countNL_nil : countNL [] = 0 := rfl
@[simp] theorem countNL_append (xs ys : List UInt8) : countNL (xs ++ ys) = countNL xs + countNL ys := by
  simp [countNL]

theorem countNL_cons (x : UInt8) (xs : List UInt8) : countNL (x :: xs) = (if x = 10 then 1 else 0) + countNL xs := by
  unfold countNL
  rw [List.filter_cons]
  by_cases h : x = 10 <;> simp [h] <;> omega

/-- a decoded rune is a newline iff its bytes are the single byte 0x0A -/
theorem RuneGood.countNL_bytes {r : Rune} (h : RuneGood r) : countNL r.bytes = if r.cp == NL then 1 else 0 := by
  by_cases hc : r.cp < 128
  · obtain ⟨hm, hb⟩ := h.1 hc
    have : (r.b0 = 10) ↔ r.cp = NL := by rw [← UInt8.toNat_inj, hb]; rfl
    simp [countNL_cons, Rune.bytes, hm, this]
  · have : r.bytes.filter (· == 10) = [] :=
      List.filter_eq_nil_iff.mpr fun b hb hb10 => by
        have := h.2 (by omega) b hb
        rw [show b = 10 by simpa using hb10] at this
        exact absurd this (by decide)
    simp [countNL, this, show ¬ r.cp = NL by omega]

theorem countNL_flat {rs : List Rune} (h : ∀ r ∈ rs, RuneGood r) : countNL (flat rs) = nl rs := by
  induction rs with
  | nil => rfl
  | cons r rs ih =>
    have hr := (h r (by simp)).countNL_bytes
    have := ih (fun x hx => h x (by simp [hx]))
    simp only [flat_cons, countNL_append, nl_cons, hr, this]

theorem nl_decodeAll (bs : List UInt8) : nl (decodeAll bs) = countNL bs := by
  rw [← countNL_flat fun _ => runeGood_of_mem_decodeAll, flat_decodeAll]

end Spok
