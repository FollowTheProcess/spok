/-! # Executable SHA-256 (FIPS 180-4) over byte lists

Core-only and total (structural recursion only). The property theorems take the hash function as a parameter
`sha`; the oracle instantiates `sha := Spok.Sha256.sha256` to compare digests byte for byte with `crypto/sha256`.
The one fact about it that a property theorem needs is `sha256_length` (the output has exactly 32 bytes), which
makes the side condition of `C04_sensitive` satisfiable; `Props/C01Sha.lean` also evaluates it on sample inputs. -/
namespace Spok.Sha256

def K : Array UInt32 := #[
  0x428a2f98, 0x71374491, 0xb5c0fbcf, 0xe9b5dba5, 0x3956c25b, 0x59f111f1, 0x923f82a4, 0xab1c5ed5,
  0xd807aa98, 0x12835b01, 0x243185be, 0x550c7dc3, 0x72be5d74, 0x80deb1fe, 0x9bdc06a7, 0xc19bf174,
  0xe49b69c1, 0xefbe4786, 0x0fc19dc6, 0x240ca1cc, 0x2de92c6f, 0x4a7484aa, 0x5cb0a9dc, 0x76f988da,
  0x983e5152, 0xa831c66d, 0xb00327c8, 0xbf597fc7, 0xc6e00bf3, 0xd5a79147, 0x06ca6351, 0x14292967,
  0x27b70a85, 0x2e1b2138, 0x4d2c6dfc, 0x53380d13, 0x650a7354, 0x766a0abb, 0x81c2c92e, 0x92722c85,
  0xa2bfe8a1, 0xa81a664b, 0xc24b8b70, 0xc76c51a3, 0xd192e819, 0xd6990624, 0xf40e3585, 0x106aa070,
  0x19a4c116, 0x1e376c08, 0x2748774c, 0x34b0bcb5, 0x391c0cb3, 0x4ed8aa4a, 0x5b9cca4f, 0x682e6ff3,
  0x748f82ee, 0x78a5636f, 0x84c87814, 0x8cc70208, 0x90befffa, 0xa4506ceb, 0xbef9a3f7, 0xc67178f2]

/-- the eight working variables / the chaining value -/
structure St where
  a : UInt32
  b : UInt32
  c : UInt32
  d : UInt32
  e : UInt32
  f : UInt32
  g : UInt32
  h : UInt32

def H0 : St := ⟨0x6a09e667, 0xbb67ae85, 0x3c6ef372, 0xa54ff53a, 0x510e527f, 0x9b05688c, 0x1f83d9ab, 0x5be0cd19⟩

def rotr (x : UInt32) (n : UInt32) : UInt32 := (x >>> n) ||| (x <<< (32 - n))

/-- big-endian 32-bit words of a byte list (a trailing partial word is dropped; `pad` never leaves one) -/
def words : List UInt8 → List UInt32
  | a :: b :: c :: d :: rest =>
    ((a.toUInt32 <<< 24) ||| (b.toUInt32 <<< 16) ||| (c.toUInt32 <<< 8) ||| d.toUInt32) :: words rest
  | _ => []

/-- message schedule: extend the 16 block words to 64 -/
def schedule (w16 : List UInt32) : Array UInt32 :=
  (List.range 48).foldl (fun (w : Array UInt32) k =>
    let i := k + 16
    let x := w.getD (i - 15) 0
    let y := w.getD (i - 2) 0
    let s0 := rotr x 7 ^^^ rotr x 18 ^^^ (x >>> 3)
    let s1 := rotr y 17 ^^^ rotr y 19 ^^^ (y >>> 10)
    w.push (w.getD (i - 16) 0 + s0 + w.getD (i - 7) 0 + s1)) w16.toArray

def round (w : Array UInt32) (s : St) (i : Nat) : St :=
  let S1 := rotr s.e 6 ^^^ rotr s.e 11 ^^^ rotr s.e 25
  let ch := (s.e &&& s.f) ^^^ ((~~~ s.e) &&& s.g)
  let t1 := s.h + S1 + ch + K.getD i 0 + w.getD i 0
  let S0 := rotr s.a 2 ^^^ rotr s.a 13 ^^^ rotr s.a 22
  let maj := (s.a &&& s.b) ^^^ (s.a &&& s.c) ^^^ (s.b &&& s.c)
  let t2 := S0 + maj
  ⟨t1 + t2, s.a, s.b, s.c, s.d + t1, s.e, s.f, s.g⟩

/-- the compression function on one 64-byte block -/
def compress (h : St) (block : List UInt8) : St :=
  let w := schedule (words block)
  let s := (List.range 64).foldl (round w) h
  ⟨h.a + s.a, h.b + s.b, h.c + s.c, h.d + s.d, h.e + s.e, h.f + s.f, h.g + s.g, h.h + s.h⟩

def be64 (n : Nat) : List UInt8 :=
  [UInt8.ofNat (n >>> 56), UInt8.ofNat (n >>> 48), UInt8.ofNat (n >>> 40), UInt8.ofNat (n >>> 32),
   UInt8.ofNat (n >>> 24), UInt8.ofNat (n >>> 16), UInt8.ofNat (n >>> 8), UInt8.ofNat n]

/-- `msg ‖ 0x80 ‖ 0…0 ‖ bitlength(64, big endian)`, a multiple of 64 bytes -/
def pad (msg : List UInt8) : List UInt8 :=
  msg ++ (0x80 :: (List.replicate ((119 - msg.length % 64) % 64) 0 ++ be64 (msg.length * 8)))

/-- absorb `n` blocks -/
def absorb : Nat → St → List UInt8 → St
  | 0, h, _ => h
  | n + 1, h, bs => absorb n (compress h (bs.take 64)) (bs.drop 64)

def be32 (x : UInt32) : List UInt8 := [(x >>> 24).toUInt8, (x >>> 16).toUInt8, (x >>> 8).toUInt8, x.toUInt8]

def out (s : St) : List UInt8 :=
  be32 s.a ++ be32 s.b ++ be32 s.c ++ be32 s.d ++ be32 s.e ++ be32 s.f ++ be32 s.g ++ be32 s.h

def sha256 (msg : List UInt8) : List UInt8 :=
  let p := pad msg
  out (absorb (p.length / 64) H0 p)

/-- the only fact about the executable instance that the property theorems' side condition needs -/
theorem sha256_length (msg : List UInt8) : (sha256 msg).length = 32 := by
  simp [sha256, out, be32]

/-! A second presentation of SHA-256 that the kernel evaluates about five times faster: lists walked front to back
    instead of arrays indexed from the start (an index into a kernel `Array` is a walk of that length, `size` included). -/

/-- the next schedule word; `l` = the schedule so far, most recent word first -/
def nextW (l : List UInt32) : UInt32 :=
  let x := l.getD 14 0
  let y := l.getD 1 0
  l.getD 15 0 + (rotr x 7 ^^^ rotr x 18 ^^^ (x >>> 3)) + l.getD 6 0 + (rotr y 17 ^^^ rotr y 19 ^^^ (y >>> 10))

def extend : Nat → List UInt32 → List UInt32
  | 0, l => l
  | n + 1, l => extend n (nextW l :: l)

/-- `round`, with the round constant and the schedule word handed over -/
def round1 (k w : UInt32) (s : St) : St :=
  let S1 := rotr s.e 6 ^^^ rotr s.e 11 ^^^ rotr s.e 25
  let ch := (s.e &&& s.f) ^^^ ((~~~ s.e) &&& s.g)
  let t1 := s.h + S1 + ch + k + w
  let S0 := rotr s.a 2 ^^^ rotr s.a 13 ^^^ rotr s.a 22
  let maj := (s.a &&& s.b) ^^^ (s.a &&& s.c) ^^^ (s.b &&& s.c)
  let t2 := S0 + maj
  ⟨t1 + t2, s.a, s.b, s.c, s.d + t1, s.e, s.f, s.g⟩

def rounds : List UInt32 → List UInt32 → St → St
  | k :: ks, w :: ws, s => rounds ks ws (round1 k w s)
  | _, _, s => s

def compressL (h : St) (block : List UInt8) : St :=
  let s := rounds K.toList (extend 48 (words block).reverse).reverse h
  ⟨h.a + s.a, h.b + s.b, h.c + s.c, h.d + s.d, h.e + s.e, h.f + s.f, h.g + s.g, h.h + s.h⟩

def absorbL : Nat → St → List UInt8 → St
  | 0, h, _ => h
  | n + 1, h, bs => absorbL n (compressL h (bs.take 64)) (bs.drop 64)

def sha256L (msg : List UInt8) : List UInt8 := out (absorbL ((pad msg).length / 64) H0 (pad msg))

theorem getD_rev (w : Array UInt32) {i j : Nat} (h : i + j + 1 = w.size) : w.getD i 0 = w.toList.reverse.getD j 0 := by
  obtain ⟨l⟩ := w
  simp only [Array.size] at h
  have : l.length - 1 - j = i := by omega
  simp [Array.getD, List.getD, List.getElem?_reverse (show j < l.length by omega), this, show i < l.length by omega]

theorem extend_length : ∀ (n : Nat) (l : List UInt32), (extend n l).length = l.length + n
  | 0, _ => rfl
  | n + 1, l => by rw [extend, extend_length n, List.length_cons]; omega

/-- the array `schedule` builds, `n` words at a time, is `extend` read backwards -/
theorem fold_extend {f : Array UInt32 → Nat → Array UInt32}
    (hf : ∀ w k, w.size = k + 16 → f w k = w.push (nextW w.toList.reverse)) :
    ∀ (n k : Nat) (w : Array UInt32), w.size = k + 16 →
      (List.range' k n).foldl f w = (extend n w.toList.reverse).reverse.toArray
  | 0, _, w, _ => by simp [extend]
  | n + 1, k, w, h => by
    rw [List.range'_succ, List.foldl_cons, hf w k h, fold_extend hf n (k + 1) _ (by rw [Array.size_push, h])]
    simp [extend]

theorem schedule_eq {ws : List UInt32} (h : ws.length = 16) : schedule ws = (extend 48 ws.reverse).reverse.toArray := by
  rw [schedule, List.range_eq_range', fold_extend _ 48 0 _ (by simpa using h)]
  intro w k h
  simp only [nextW]
  rw [getD_rev w (i := k + 16 - 15) (j := 14) (by omega), getD_rev w (i := k + 16 - 2) (j := 1) (by omega),
    getD_rev w (i := k + 16 - 16) (j := 15) (by omega), getD_rev w (i := k + 16 - 7) (j := 6) (by omega)]

/-- `n` rounds from round `o` on: `round` looks up by index what `rounds` takes from the front -/
theorem rounds_fold (W : Array UInt32) : ∀ (n o : Nat) (s : St), o + n ≤ K.size → o + n ≤ W.size →
    (List.range' o n).foldl (round W) s = rounds ((K.toList.drop o).take n) ((W.toList.drop o).take n) s
  | 0, _, _, _, _ => by simp [rounds]
  | n + 1, o, s, hK, hW => by
    have hK' : o < K.toList.length := by simp only [Array.length_toList]; omega
    have hW' : o < W.toList.length := by simp only [Array.length_toList]; omega
    rw [List.range'_succ, List.foldl_cons, rounds_fold W n (o + 1) _ (by omega) (by omega),
      List.drop_eq_getElem_cons hK', List.drop_eq_getElem_cons hW', List.take_succ_cons, List.take_succ_cons, rounds]
    congr 1
    simp only [round, round1, Array.getD, Array.getElem_toList, show o < K.size by omega, show o < W.size by omega, dite_true]
    rfl

theorem words_length : ∀ (n : Nat) (l : List UInt8), l.length = 4 * n → (words l).length = n
  | 0, l, h => by cases l with | nil => rfl | cons _ _ => simp at h
  | n + 1, a :: b :: c :: d :: rest, h => by
    rw [words, List.length_cons, words_length n rest (by simp only [List.length_cons] at h; omega)]
  | n + 1, [], h | n + 1, [_], h | n + 1, [_, _], h | n + 1, [_, _, _], h => by simp only [List.length_cons, List.length_nil] at h; omega

theorem compress_eq (h : St) {block : List UInt8} (hb : block.length = 64) : compress h block = compressL h block := by
  have hw := words_length 16 block hb
  have hs : (extend 48 (words block).reverse).reverse.length = 64 := by
    rw [List.length_reverse, extend_length, List.length_reverse, hw]
  simp only [compress, compressL, schedule_eq hw, List.range_eq_range']
  rw [rounds_fold _ 64 0 h (by decide) (by simp [hs])]
  simp only [List.drop_zero]
  rw [List.take_of_length_le (by decide), List.take_of_length_le (by simp [hs])]

theorem absorb_eq : ∀ (n : Nat) (h : St) (bs : List UInt8), bs.length = 64 * n → absorb n h bs = absorbL n h bs
  | 0, _, _, _ => rfl
  | n + 1, h, bs, hl => by
    rw [absorb, absorbL, compress_eq h (by rw [List.length_take]; omega), absorb_eq n _ _ (by rw [List.length_drop]; omega)]

theorem sha256_eq : sha256 = sha256L := by
  funext msg
  have : (pad msg).length = 64 * ((pad msg).length / 64) := by
    simp only [pad, be64, List.length_append, List.length_cons, List.length_replicate, List.length_nil]
    omega
  simp only [sha256, sha256L]
  rw [absorb_eq _ _ _ this]

/-! FIPS 180-4 test vectors, checked by kernel evaluation (no axioms) -/

/-- SHA-256("") = e3b0c442 98fc1c14 9afbf4c8 996fb924 27ae41e4 649b934c a495991b 7852b855 -/
example : sha256 [] =
    [0xe3, 0xb0, 0xc4, 0x42, 0x98, 0xfc, 0x1c, 0x14, 0x9a, 0xfb, 0xf4, 0xc8, 0x99, 0x6f, 0xb9, 0x24,
     0x27, 0xae, 0x41, 0xe4, 0x64, 0x9b, 0x93, 0x4c, 0xa4, 0x95, 0x99, 0x1b, 0x78, 0x52, 0xb8, 0x55] := by
  rw [sha256_eq]; decide +kernel

/-- SHA-256("abc") = ba7816bf 8f01cfea 414140de 5dae2223 b00361a3 96177a9c b410ff61 f20015ad -/
example : sha256 [0x61, 0x62, 0x63] =
    [0xba, 0x78, 0x16, 0xbf, 0x8f, 0x01, 0xcf, 0xea, 0x41, 0x41, 0x40, 0xde, 0x5d, 0xae, 0x22, 0x23,
     0xb0, 0x03, 0x61, 0xa3, 0x96, 0x17, 0x7a, 0x9c, 0xb4, 0x10, 0xff, 0x61, 0xf2, 0x00, 0x15, 0xad] := by
  rw [sha256_eq]; decide +kernel

/-- two-block message (56 bytes, FIPS 180-4 B.2): "abcdbcdecdefdefgefghfghighijhijkijkljklmklmnlmnomnopnopq" -/
example : sha256 ("abcdbcdecdefdefgefghfghighijhijkijkljklmklmnlmnomnopnopq".toUTF8.toList) =
    [0x24, 0x8d, 0x6a, 0x61, 0xd2, 0x06, 0x38, 0xb8, 0xe5, 0xc0, 0x26, 0x93, 0x0c, 0x3e, 0x60, 0x39,
     0xa3, 0x3c, 0xe4, 0x59, 0x64, 0xff, 0x21, 0x67, 0xf6, 0xec, 0xed, 0xd4, 0x19, 0xdb, 0x06, 0xc1] := by
  rw [sha256_eq]; decide +kernel

end Spok.Sha256
