/-! # Runes and UTF-8 decoding with Go's semantics

`decode1` follows `utf8.DecodeRuneInString`: an invalid or truncated sequence decodes to
U+FFFD with width 1.  A `Rune` carries the bytes it was decoded from, so that a list of runes
determines the byte string it came from (`flat (decodeAll bs) = bs`). -/
namespace Spok

structure Rune where
  cp : Nat
  /-- first byte -/
  b0 : UInt8
  /-- the remaining bytes (a rune is never empty) -/
  more : List UInt8
deriving DecidableEq, Repr, Inhabited

def Rune.bytes (r : Rune) : List UInt8 := r.b0 :: r.more

/-- width in bytes, always at least one -/
def Rune.w (r : Rune) : Nat := r.more.length + 1

theorem Rune.w_pos (r : Rune) : 1 ≤ r.w := by simp [Rune.w]
theorem Rune.w_ne_zero (r : Rune) : (r.w == 0) = false := by simp [Rune.w]
theorem Rune.bytes_length (r : Rune) : r.bytes.length = r.w := by simp [Rune.bytes, Rune.w]

/-- an ASCII rune -/
def asc (c : Nat) : Rune := ⟨c, UInt8.ofNat c, []⟩

def cont (b : UInt8) : Bool := 0x80 ≤ b.toNat && b.toNat ≤ 0xBF

/-- what `next()` returns at end of input: RuneError (the lexer records width 0 for it itself) -/
def eofRune : Rune := ⟨0xFFFD, 0, []⟩

/-- one step of `utf8.DecodeRuneInString` on a non-empty input -/
def decode1 (b0 : UInt8) (rest : List UInt8) : Rune :=
  let n0 := b0.toNat
  let bad : Rune := ⟨0xFFFD, b0, []⟩
  if n0 < 0x80 then ⟨n0, b0, []⟩
  else if n0 < 0xC2 then bad
  else if n0 < 0xE0 then
    match rest with
    | b1 :: _ => if cont b1 then ⟨(n0 % 32) * 64 + b1.toNat % 64, b0, [b1]⟩ else bad
    | _ => bad
  else if n0 < 0xF0 then
    match rest with
    | b1 :: b2 :: _ =>
      let lo := if n0 == 0xE0 then 0xA0 else 0x80
      let hi := if n0 == 0xED then 0x9F else 0xBF
      if lo ≤ b1.toNat && b1.toNat ≤ hi && cont b2 then
        ⟨(n0 % 16) * 4096 + (b1.toNat % 64) * 64 + b2.toNat % 64, b0, [b1, b2]⟩ else bad
    | _ => bad
  else if n0 < 0xF5 then
    match rest with
    | b1 :: b2 :: b3 :: _ =>
      let lo := if n0 == 0xF0 then 0x90 else 0x80
      let hi := if n0 == 0xF4 then 0x8F else 0xBF
      if lo ≤ b1.toNat && b1.toNat ≤ hi && cont b2 && cont b3 then
        ⟨(n0 % 8) * 262144 + (b1.toNat % 64) * 4096 + (b2.toNat % 64) * 64 + b3.toNat % 64, b0, [b1, b2, b3]⟩
      else bad
    | _ => bad
  else bad

theorem decode1_w_pos (b0 : UInt8) (rest : List UInt8) : 1 ≤ (decode1 b0 rest).w := Rune.w_pos _

/-- decode a whole byte string, Go style -/
def decodeAll : List UInt8 → List Rune
  | [] => []
  | b0 :: rest =>
    let r := decode1 b0 rest
    r :: decodeAll ((b0 :: rest).drop r.w)
termination_by bs => bs.length
decreasing_by
  have := decode1_w_pos b0 rest
  simp [List.length_drop]; omega

def flat (rs : List Rune) : List UInt8 := rs.flatMap (·.bytes)

def strRunes (s : String) : List Rune := decodeAll s.toUTF8.toList

end Spok
